import MtailVerif.Props.C01
import MtailVerif.Props.C02
import MtailVerif.Props.C03
import MtailVerif.Props.C04
import MtailVerif.Props.C05
import MtailVerif.Props.C06
import MtailVerif.Props.C07
import MtailVerif.Props.C08
import MtailVerif.Props.C09
import MtailVerif.Props.C10
import MtailVerif.Props.C11
import MtailVerif.Props.C12
import MtailVerif.Props.C13
import MtailVerif.Props.C14
import MtailVerif.Props.C15
import MtailVerif.Props.C16
import MtailVerif.Props.C17
import MtailVerif.Props.C18
import MtailVerif.Props.C19
import MtailVerif.Props.C20
import MtailVerif.Props.C21
import MtailVerif.Props.C22
import MtailVerif.Props.C23
import MtailVerif.Props.C24
import MtailVerif.Props.C25
import MtailVerif.Props.C26
