import MtailVerif.Proofs.IRCorrect
import MtailVerif.Proofs.IREval
import MtailVerif.Model.Lower
import MtailVerif.Proofs.Skeletons
/-! C01 — compiled programs compute what the language reference says.

`IR.Sem` (Model/IR.lean) is the reference semantics of the typed core language the code generator
works from: structural evaluation in source order, short-circuit `&&`/`||`, comparisons yielding
booleans, conditions, `else`, and `otherwise` with the per-block flag of docs/Language.md; a `stop`,
a checked runtime error or an internal fault ends the line with the effects made so far.
`IR.emit` is codegen.go's instruction layout.  `compile_correct`: the VM running the generated
code gives, for every line, store, memo and library behaviour, exactly what the semantics gives.

Partial (stated in DESIGN.md): the theorem starts from the core language.  The step from the
checked AST to the core language (`Lower.lower`: name resolution as the checker did it, decorator
expansion, opcode choice from the typed operator table, conversions) is a model that is compared
with the real code generator's bytecode on every case, not proved; the leaves of the semantics
(`+` on integers is wrapping 64-bit addition, …) are the VM model's instruction semantics, which
C04's correspondence ties to vm.go. -/
namespace MtailVerif.C01
open MtailVerif MtailVerif.VM MtailVerif.IR MtailVerif.Lower MtailVerif.Ast

/-- **Compiler correctness (core language).**  For every program outside the two
    `otherwise`/`else` shapes, every line, every metric store, every strptime memo and every
    behaviour of the standard library: the bytecode's result (how the line ends — normally, by
    `stop`, with which checked runtime error, or with which internal fault — the metric store and
    the memo) is the reference semantics' result, given enough fuel. -/
theorem compiled_code_computes_the_reference_semantics (prog : Ss) (hok : okSs prog = true)
    (p : Prog) (hp : p.code = emitSs prog 0) (o : Oracle) (inp : Input) (st : MStore) (memo : Memo) :
    ∃ k, ∀ fuel, k ≤ fuel → runLine o p fuel inp st memo = semLine o p prog inp st memo :=
  compile_correct prog hok p hp o inp st memo

/-- A runtime error aborts only the rest of the line: what the semantics returns on an error is
    the store at the point of the error (this is how `R.halt` is produced: `afterStep` passes on
    the store of the failing instruction's result, and every enclosing construct returns it
    unchanged). Stated for a sequence of statements. -/
theorem error_keeps_effects_made_before (o : Oracle) (p : Prog) (inp : Input) (s : S) (ss : Ss) (c c' : Cfg) (fl fl' : Bool)
    (h1 : execS o p inp s c fl = .ok c' fl') (out : Outcome) (st : MStore) (memo : Memo)
    (h2 : execSs o p inp ss c' fl' = .halt out st memo) :
    execSs o p inp (.cons s ss) c fl = .halt out st memo := by
  rw [execSs, h1]; exact h2

/-! ### the operator table

The theorem above takes a primitive's meaning from the VM model.  What the *source* operators mean
is fixed here independently (64-bit wrapping integer arithmetic with Go's truncated division,
the library's float arithmetic, two's-complement bit operations, the usual order on integers), and
the opcode and branch polarity that `Lower` picks from codegen.go's tables are proved to compute
exactly that on operands of the operator's type — so an operator mapped to the wrong opcode, a
comparison with the wrong operand or the wrong jump, would break a proof here. -/

/-- what the binary operators of the language mean on two 64-bit integers -/
def intOp (o : Oracle) : Op → Int → Int → Except RtErr Int
  | .plus, x, y => .ok (wrap (x + y))
  | .minus, x, y => .ok (wrap (x - y))
  | .mul, x, y => .ok (wrap (x * y))
  | .div, x, y => if y = 0 then .error .divByZero else .ok (wrap (Int.tdiv x y))
  | .mod, x, y => if y = 0 then .error .divByZero else .ok (Int.tmod x y)
  | .pow, x, y => .ok (o.f2i (o.fpow (o.i2f x) (o.i2f y)))
  | _, _, _ => .error .arity

def litI (x : Int) : E := .prim [⟨.push, .i64 x⟩] .nil

def pushV (v : Val) (c : Cfg) : Cfg := ⟨{ c.t with stack := v :: c.t.stack }, c.st, c.memo⟩

theorem int_operator_table (o : Oracle) (p : Prog) (inp : Input) (c : Cfg) (hc : norm c.t = c.t) (x y : Int) (oc : Opcode)
    (op : Op) (hop : op = .plus ∨ op = .minus ∨ op = .mul ∨ op = .div ∨ op = .mod ∨ op = .pow)
    (h : typedOp op .int = some oc) :
    evalE o p inp (.prim [i0 oc] (.cons (litI x) (.cons (litI y) .nil))) c =
      match intOp o op x y with
      | .ok r => .ok (pushV (.i64 r) c)
      | .error e => .halt (.err e) c.st c.memo := by
  refine evalE_prim2 (pushes_i64 x) (pushes_i64 y) hc (runPrim_try hc (intOp o op x y) .i64 fun _ => ?_)
  rcases hop with rfl | rfl | rfl | rfl | rfl | rfl <;> cases h <;> rfl

def floatOp (o : Oracle) : Op → UInt64 → UInt64 → Option UInt64
  | .plus, a, b => some (o.fadd a b)
  | .minus, a, b => some (o.fsub a b)
  | .mul, a, b => some (o.fmul a b)
  | .div, a, b => some (o.fdiv a b)
  | .mod, a, b => some (o.fmod a b)
  | .pow, a, b => some (o.fpow a b)
  | _, _, _ => none

def litF (b : UInt64) : E := .prim [⟨.push, .f64 b⟩] .nil

theorem float_operator_table (o : Oracle) (p : Prog) (inp : Input) (c : Cfg) (hc : norm c.t = c.t) (a b : UInt64)
    (oc : Opcode) (op : Op) (hop : op ≠ .assign) (h : typedOp op .float = some oc) :
    ∃ r, floatOp o op a b = some r ∧
      evalE o p inp (.prim [i0 oc] (.cons (litF a) (.cons (litF b) .nil))) c = .ok (pushV (.f64 r) c) := by
  cases op <;> cases h
  case assign => exact absurd rfl hop
  all_goals exact ⟨_, rfl, evalE_prim2 (pushes_f64 a) (pushes_f64 b) hc (runPrim_next hc fun _ => rfl)⟩

/-- bitwise operators and shifts on 64-bit integers -/
def bitOp : Op → Int → Int → Except RtErr Int
  | .bitand, x, y => .ok (BitVec.ofInt 64 x &&& BitVec.ofInt 64 y).toInt
  | .bitor, x, y => .ok (BitVec.ofInt 64 x ||| BitVec.ofInt 64 y).toInt
  | .xor, x, y => .ok (BitVec.ofInt 64 x ^^^ BitVec.ofInt 64 y).toInt
  | .shl, x, y => if y < 0 ∨ y ≥ 2147483647 then .error .shiftOutOfRange
                  else .ok (if y ≥ 64 then 0 else wrap (x * 2 ^ y.toNat))
  | .shr, x, y => if y < 0 ∨ y ≥ 2147483647 then .error .shiftOutOfRange
                  else .ok (if y ≥ 64 then (if x < 0 then -1 else 0) else x / 2 ^ y.toNat)
  | _, _, _ => .error .arity

theorem bit_operator_table (o : Oracle) (p : Prog) (inp : Input) (c : Cfg) (hc : norm c.t = c.t) (x y : Int)
    (oc : Opcode) (op : Op) (h : bitOpcode op = some oc) :
    evalE o p inp (.prim [i0 oc] (.cons (litI x) (.cons (litI y) .nil))) c =
      match bitOp op x y with
      | .ok r => .ok (pushV (.i64 r) c)
      | .error e => .halt (.err e) c.st c.memo := by
  refine evalE_prim2 (pushes_i64 x) (pushes_i64 y) hc (runPrim_try hc (bitOp op x y) .i64 fun _ => ?_)
  cases op <;> cases h <;> rfl

/-- `~x` is the bitwise complement -/
theorem not_operator (o : Oracle) (p : Prog) (inp : Input) (c : Cfg) (hc : norm c.t = c.t) (x : Int) :
    evalE o p inp (.prim [i0 .neg] (.cons (litI x) .nil)) c = .ok (pushV (.i64 (-x - 1)) c) :=
  evalE_prim1 (pushes_i64 x) hc (runPrim_next hc fun _ => rfl)

/-- the truth value of a comparison of two integers -/
def cmpMeaning : Op → Int → Int → Bool
  | .lt, x, y => decide (x < y) | .gt, x, y => decide (x > y) | .le, x, y => decide (x ≤ y)
  | .ge, x, y => decide (x ≥ y) | .eq, x, y => decide (x = y) | .ne, x, y => decide (x ≠ y)
  | _, _, _ => false

theorem int_comparison_table (o : Oracle) (p : Prog) (inp : Input) (c : Cfg) (hc : norm c.t = c.t) (x y : Int)
    (op : Op) (arg : Int) (jm : Bool) (h : cmpCode op = some (arg, jm)) :
    evalE o p inp (.cmp (iN .icmp arg) jm (litI x) (litI y)) c = .ok (pushV (.bool (cmpMeaning op x y)) c) := by
  have nlt (x y : Int) : (!decide (x < y)) = decide (y ≤ x) := by simp only [← decide_not, Int.not_lt]
  cases op <;> cases h <;> refine evalE_cmp (pushes_i64 x) (pushes_i64 y) hc (runPrim_next hc fun _ => rfl) ?_
  case le => exact nlt y x
  case ge => exact nlt x y
  case ne => exact (decide_not ..).symm
  all_goals rfl

/-- a string operand: the literal at index `k` of the program's string table -/
def litS (k : Nat) : E := .prim [iN .str k] .nil

/-- `+` on strings is concatenation -/
theorem string_plus_is_concatenation (o : Oracle) (p : Prog) (inp : Input) (c : Cfg) (hc : norm c.t = c.t)
    (j k : Nat) (a b : Bytes) (ha : p.strs[j]? = some a) (hb : p.strs[k]? = some b) (oc : Opcode)
    (h : typedOp .plus .str = some oc) :
    evalE o p inp (.prim [i0 oc] (.cons (litS j) (.cons (litS k) .nil))) c = .ok (pushV (.str (a ++ b)) c) := by
  cases h
  exact evalE_prim2 (pushes_str ha) (pushes_str hb) hc (runPrim_next hc fun _ => rfl)

/-- the implicit and explicit conversions: what `emitConversion` emits computes the conversion -/
theorem conversion_int_to_float (o : Oracle) (p : Prog) (inp : Input) (c : Cfg) (hc : norm c.t = c.t) (x : Int)
    (is : List Instr) (h : conversion .int .float = some is) :
    evalE o p inp (.prim is (.cons (litI x) .nil)) c = .ok (pushV (.f64 (o.i2f x)) c) := by
  cases h
  exact evalE_prim1 (pushes_i64 x) hc (runPrim_next hc fun _ => rfl)

theorem conversion_int_to_string (o : Oracle) (p : Prog) (inp : Input) (c : Cfg) (hc : norm c.t = c.t) (x : Int)
    (is : List Instr) (h : conversion .int .str = some is) :
    evalE o p inp (.prim is (.cons (litI x) .nil)) c = .ok (pushV (.str (itoa x)) c) := by
  cases h
  exact evalE_prim1 (pushes_i64 x) hc (runPrim_next hc fun _ => rfl)

/-- a string to an integer: the library's base-10 parse, or the checked conversion error -/
theorem conversion_string_to_int (o : Oracle) (p : Prog) (inp : Input) (c : Cfg) (hc : norm c.t = c.t)
    (k : Nat) (s : Bytes) (hs : p.strs[k]? = some s) (is : List Instr) (h : conversion .str .int = some is) :
    evalE o p inp (.prim is (.cons (litS k) .nil)) c =
      match o.parseInt s 10 with
      | some n => .ok (pushV (.i64 n) c)
      | none => .halt (.err .convFailed) c.st c.memo := by
  cases h
  refine evalE_prim1 (pushes_str hs) hc ?_
  cases hp : o.parseInt s 10 with
  | none => exact runPrim_err fun _ => by simp only [i0, stepCore, popString, P.andThen, hp]
  | some n => exact runPrim_next hc fun _ => by simp only [i0, stepCore, popString, P.andThen, hp]

/-- comparisons of strings: byte-wise lexicographic order -/
def strCmpMeaning : Op → Bytes → Bytes → Bool
  | .lt, a, b => decide (a < b) | .gt, a, b => decide (b < a) | .le, a, b => !decide (b < a)
  | .ge, a, b => !decide (a < b) | .eq, a, b => decide (a = b) | .ne, a, b => !decide (a = b)
  | _, _, _ => false

theorem string_comparison_table (o : Oracle) (p : Prog) (inp : Input) (c : Cfg) (hc : norm c.t = c.t)
    (j k : Nat) (a b : Bytes) (ha : p.strs[j]? = some a) (hb : p.strs[k]? = some b)
    (op : Op) (arg : Int) (jm : Bool) (h : cmpCode op = some (arg, jm)) :
    evalE o p inp (.cmp (iN .scmp arg) jm (litS j) (litS k)) c = .ok (pushV (.bool (strCmpMeaning op a b)) c) := by
  cases op <;> cases h <;> exact evalE_cmp (pushes_str ha) (pushes_str hb) hc (runPrim_next hc fun _ => rfl) rfl

/-- comparisons of floats are the library's -/
def floatCmpMeaning (o : Oracle) : Op → UInt64 → UInt64 → Bool
  | .lt, a, b => o.fcmp a b (-1) | .gt, a, b => o.fcmp a b 1 | .le, a, b => !o.fcmp a b 1
  | .ge, a, b => !o.fcmp a b (-1) | .eq, a, b => o.fcmp a b 0 | .ne, a, b => !o.fcmp a b 0
  | _, _, _ => false

theorem float_comparison_table (o : Oracle) (p : Prog) (inp : Input) (c : Cfg) (hc : norm c.t = c.t)
    (a b : UInt64) (op : Op) (arg : Int) (jm : Bool) (h : cmpCode op = some (arg, jm)) :
    evalE o p inp (.cmp (iN .fcmp arg) jm (litF a) (litF b)) c = .ok (pushV (.bool (floatCmpMeaning o op a b)) c) := by
  cases op <;> cases h <;> exact evalE_cmp (pushes_f64 a) (pushes_f64 b) hc (runPrim_next hc fun _ => rfl) rfl

/-- short-circuit: when `a` is false, `a && b` is false and `b` is not evaluated (whatever `b`
    is, even an expression that would raise an error); when `a` is true, `a || b` is true -/
theorem and_short_circuits (o : Oracle) (p : Prog) (inp : Input) (a b : E) (c c' : Cfg)
    (h : evalE o p inp a c = .ok (pushB false c')) :
    evalE o p inp (.and a b) c = .ok (pushB false c') := by
  rw [evalE, h]; rfl

theorem or_short_circuits (o : Oracle) (p : Prog) (inp : Input) (a b : E) (c c' : Cfg)
    (h : evalE o p inp a c = .ok (pushB true c')) :
    evalE o p inp (.or a b) c = .ok (pushB true c') := by
  rw [evalE, h]; rfl

/-! ### the excluded shapes deviate: a concrete program (known finding)

`/1 > 0/ { m0++ }   /0 > 1/ { } else { otherwise { m1++ } }` — by the language reference the
`otherwise` is the first conditional of its block (the `else` block), so it matches and m1 becomes
1; the compiled code leaves the matched register of the enclosing block set, and m1 stays 0. -/

def lit (n : Int) : E := .prim [⟨.push, .i64 n⟩] .nil
def gt (a b : Int) : E := .cmp ⟨.icmp, .int 1⟩ false (lit a) (lit b)
def incr (m : Int) : S := .expr (.prim [⟨.mload, .int m⟩, ⟨.dload, .int 0⟩, ⟨.inc, .none⟩] .nil)

def cex : Ss :=
  .cons (.cond (gt 1 0) (.cons (incr 0) .nil))
    (.cons (.condElse (gt 0 1) .nil (.cons (.otherwise (.cons (incr 1) .nil)) .nil)) .nil)

def o0 : Oracle :=
  { reMatch := fun _ _ => none, parseInt := fun _ _ => none, parseFloat := fun _ => none,
    fadd := fun a _ => a, fsub := fun a _ => a, fmul := fun a _ => a, fdiv := fun a _ => a,
    fmod := fun a _ => a, fpow := fun a _ => a, fcmp := fun _ _ _ => false, i2f := fun _ => 0,
    f2i := fun _ => 0, fmtG := fun _ => [], fmtg := fun _ => [], toLower := id,
    replaceAll := fun v _ _ => v, reReplace := fun _ v _ => v, timeParse := fun _ _ => none, nowSec := 0 }

def p0 : Prog := ⟨emitSs cex 0, [], 0, [⟨0, 0, []⟩, ⟨0, 0, []⟩]⟩
def st0 : MStore := [{ nkeys := 0 }, { nkeys := 0 }]

def valueOf (r : LineResult) (m : Nat) : Option Int :=
  match (r.store[m]?).bind (fun mm => mm.lvs.head?) with
  | some lv => (match lv.value.val with | .int x => some x | _ => none)
  | none => none

example : okSs cex = false := by decide

/-- **The excluded shapes really deviate** (kernel-checked by evaluation of both sides on this
    program): the reference semantics increments m1, the compiled code does not. -/
theorem otherwise_in_else_deviates :
    valueOf (semLine o0 p0 cex ⟨[], []⟩ st0 []) 1 = some 1 ∧
    valueOf (runLine o0 p0 100 ⟨[], []⟩ st0 []) 1 = none ∧
    valueOf (semLine o0 p0 cex ⟨[], []⟩ st0 []) 0 = some 1 ∧
    valueOf (runLine o0 p0 100 ⟨[], []⟩ st0 []) 0 = some 1 := by
  refine ⟨?_, ?_, ?_, ?_⟩ <;> decide +kernel

/-! ### the hypotheses are met by non-trivial programs -/

/-- `1 > 0 && 0 > 1 { m0++ } else { m1++ }   otherwise`-free, nested: inside the class -/
def sample : Ss :=
  .cons (.condElse (.and (gt 1 0) (.or (gt 0 1) (gt 2 1))) (.cons (incr 0) (.cons (.cond (gt 3 2) (.cons (incr 1) .nil)) .nil))
    (.cons (incr 1) .nil)) (.cons (.otherwise (.cons (incr 0) .nil)) .nil)

example : okSs (.cons (.cond (gt 1 0) (.cons (incr 0) (.cons (.otherwise (.cons (incr 1) .nil)) .nil))) .nil) = true := by
  decide
example : okSs (.cons (.condElse (.and (gt 1 0) (.or (gt 0 1) (gt 2 1))) (.cons (incr 0) .nil) (.cons (incr 1) .nil)) .nil) = true := by
  decide

/-! ### regenerated control skeletons (written by lib/wire_skeletons.py) -/
/-- Obligations over regenerated facts: the functions this property's model stands for have the
    control skeleton the model was written against (`Proofs/Skeletons.lean`, one `rfl` per function
    or clause; DESIGN.md §11.6a) -/
theorem line_skeletons : Skeletons.LineShape := Skeletons.line_shape
theorem symbols_skeletons : Skeletons.SymbolsShape := Skeletons.symbols_shape
theorem exec_skeletons : Skeletons.ExecShape := Skeletons.exec_shape
theorem compare_skeletons : Skeletons.CompareShape := Skeletons.compare_shape
theorem codegenBefore_skeletons : Skeletons.CodegenBeforeShape := Skeletons.codegenBefore_shape
theorem codegenAfter_skeletons : Skeletons.CodegenAfterShape := Skeletons.codegenAfter_shape
theorem f_checker_checker_skeletons : Skeletons.F_checker_checkerShape := Skeletons.f_checker_checker_shape
theorem f_codegen_codegen_skeletons : Skeletons.F_codegen_codegenShape := Skeletons.f_codegen_codegen_shape
theorem f_vm_vm_skeletons : Skeletons.F_vm_vmShape := Skeletons.f_vm_vm_shape
theorem f_types_types_skeletons : Skeletons.F_types_typesShape := Skeletons.f_types_types_shape

end MtailVerif.C01
