import MtailVerif.Proofs.VMMemo
import MtailVerif.Generated.VM
import MtailVerif.Proofs.Skeletons
/-! # C05 — a line's effect never depends on earlier lines except through metrics

    What `vm.VM` keeps between lines is, in the model, exactly the arguments of `runLine`: the
    metric store and the strptime memo.  The thread (program counter, stack, capture results, time
    register, matched flag, the per-line list of removed label values) is created afresh inside
    `runLine`, as `ProcessLogLine` does, and `terminate` is a result, not state.  So the only
    channel other than the metrics is the memo, and the theorems show it is transparent. -/
namespace MtailVerif.C05
open MtailVerif MtailVerif.VM

/-- the VM state after a history of lines, starting from a freshly loaded program -/
def after (o : Oracle) (p : Prog) (fuel : Nat) : List Input → MStore → Memo → MStore × Memo
  | [], st, memo => (st, memo)
  | inp :: rest, st, memo =>
    let r := runLine o p fuel inp st memo
    after o p fuel rest r.store r.memo

/-- invariant over every history: each memo entry is what the library returns for its key -/
theorem memo_coherent (o : Oracle) (p : Prog) (fuel : Nat) :
    ∀ (hist : List Input) (st : MStore) (memo : Memo), Coherent o memo →
      Coherent o (after o p fuel hist st memo).2 := by
  intro hist
  induction hist with
  | nil => intro st memo h; exact h
  | cons inp rest ih =>
    intro st memo h
    simp only [after]
    exact ih _ _ (runLine_coherent h)

/-- **the property**: after any history, a line has the same outcome (normal end, `stop`, which
    runtime error, fault) and leaves the same metrics as in a freshly loaded copy of the program
    (empty memo, fresh thread) whose metrics hold the same values -/
theorem line_effect_history_independent (o : Oracle) (p : Prog) (fuel : Nat) (hist : List Input)
    (st0 : MStore) (line : Input) :
    let s := after o p fuel hist st0 []
    (runLine o p fuel line s.1 s.2).out = (runLine o p fuel line s.1 []).out ∧
    (runLine o p fuel line s.1 s.2).store = (runLine o p fuel line s.1 []).store :=
  runLine_memo_indep (memo_coherent o p fuel hist st0 [] (coherent_nil o)) (coherent_nil o)

/-- the same for two arbitrary histories that led to the same metric values -/
theorem line_effect_depends_on_metrics_only (o : Oracle) (p : Prog) (fuel : Nat) (h1 h2 : List Input)
    (sa sb : MStore) (line : Input)
    (heq : (after o p fuel h1 sa []).1 = (after o p fuel h2 sb []).1) :
    (runLine o p fuel line (after o p fuel h1 sa []).1 (after o p fuel h1 sa []).2).out =
      (runLine o p fuel line (after o p fuel h2 sb []).1 (after o p fuel h2 sb []).2).out ∧
    (runLine o p fuel line (after o p fuel h1 sa []).1 (after o p fuel h1 sa []).2).store =
      (runLine o p fuel line (after o p fuel h2 sb []).1 (after o p fuel h2 sb []).2).store := by
  rw [heq]
  exact runLine_memo_indep (memo_coherent o p fuel h1 sa [] (coherent_nil o)) (memo_coherent o p fuel h2 sb [] (coherent_nil o))

/-- regenerated facts the memo model rests on: the key has both the layout and the value, a failed
    parse is not stored, and the capacity -/
theorem source_shape :
    Generated.VM.memoKeyFields = ["layout:string", "value:string"] ∧
    Generated.VM.memoAddGuard = "!v.terminate" ∧
    Generated.VM.memoCapacity = "64" ∧ memoCap = 64 ∧
    -- nothing of a line's control state reaches the next line: the terminate flag is cleared right
    -- after the instruction that set it, and a panic is turned into that flag inside `execute`
    Generated.VM.terminateResetAfterExecute = true ∧ Generated.VM.executeRecoversPanics = true := ⟨rfl, rfl, rfl, rfl, rfl, rfl⟩

/-- why the key needs the layout: a memo keyed by the value alone is not coherent — one entry would
    have to equal two different parses -/
theorem value_only_key_would_leak :
    ∃ (parse : Bytes → Bytes → Option T) (l1 l2 v : Bytes), parse l1 v ≠ parse l2 v :=
  ⟨fun l _ => if l = [1] then some 1 else some 2, [1], [2], [], by decide⟩

/-- non-vacuity: a history on a concrete program really fills the memo -/
example : ∃ (o : Oracle) (p : Prog) (hist : List Input), (after o p 10 hist [] []).2 ≠ [] := by
  let o : Oracle := {
    reMatch := fun _ _ => none, parseInt := fun _ _ => none, parseFloat := fun _ => none,
    fadd := fun a _ => a, fsub := fun a _ => a, fmul := fun a _ => a, fdiv := fun a _ => a,
    fmod := fun a _ => a, fpow := fun a _ => a, fcmp := fun _ _ _ => false, i2f := fun _ => 0,
    f2i := fun _ => 0, fmtG := fun _ => [], fmtg := fun _ => [], toLower := id,
    replaceAll := fun v _ _ => v, reReplace := fun _ v _ => v, timeParse := fun _ _ => some 5, nowSec := 0 }
  refine ⟨o, ⟨[⟨.str, .int 0⟩, ⟨.str, .int 0⟩, ⟨.strptime, .int 2⟩], [[65]], 0, []⟩, [⟨[], []⟩], ?_⟩
  decide

/-! ### regenerated control skeletons (written by lib/wire_skeletons.py) -/
/-- Obligations over regenerated facts: the functions this property's model stands for have the
    control skeleton the model was written against (`Proofs/Skeletons.lean`, one `rfl` per function
    or clause; DESIGN.md §11.6a) -/
theorem line_skeletons : Skeletons.LineShape := Skeletons.line_shape
theorem exec_skeletons : Skeletons.ExecShape := Skeletons.exec_shape
theorem f_vm_vm_skeletons : Skeletons.F_vm_vmShape := Skeletons.f_vm_vm_shape

end MtailVerif.C05
