import MtailVerif.Proofs.Formats
import MtailVerif.Proofs.Skeletons
/-! # C22 — Every export format reports each label set's own value

    The formatters are modelled as functions of the metric and the label set being emitted, as in
    the Go code (`func(hostname, m, l, interval) string`), where `m` carries *all* label sets.
    Non-interference: the record of label set `l` is unchanged by any change to the other label
    sets of the metric (in particular to `LabelValues[0]`). -/
namespace MtailVerif.C22
open MtailVerif MtailVerif.Formats

/-- two metrics that differ only in their (other) label sets -/
def sameStatic (m m' : FMetric) : Prop :=
  m.name = m'.name ∧ m.prog = m'.prog ∧ m.kind = m'.kind ∧ m.histBuckets = m'.histBuckets

/-- whatever does not read a metric's label sets takes the same value on metrics with the same static
    part; for a formatter, not reading them is `rfl` -/
theorem of_sameStatic {γ : Type} (F : FMetric → γ) (hF : ∀ m, F m = F { m with lsets := [] }) {m m' : FMetric}
    (h : sameStatic m m') : F m = F m' := by
  rw [hF m, hF m']
  obtain ⟨h1, h2, h3, h4⟩ := h
  rw [h1, h2, h3, h4]

theorem graphite_own_label_set (p : Bytes) (m m' : FMetric) (l : FLabelSet) (h : sameStatic m m') :
    graphiteLines p m l = graphiteLines p m' l :=
  of_sameStatic (graphiteLines p · l) (fun _ => rfl) h

theorem statsd_own_label_set (p : Bytes) (m m' : FMetric) (l : FLabelSet) (h : sameStatic m m') :
    statsdRecord p m l = statsdRecord p m' l :=
  of_sameStatic (statsdRecord p · l) (fun _ => rfl) h

theorem collectd_own_label_set (host p i : Bytes) (m m' : FMetric) (l : FLabelSet) (h : sameStatic m m') :
    collectdRecord host p i m l = collectdRecord host p i m' l :=
  of_sameStatic (collectdRecord host p i · l) (fun _ => rfl) h

theorem varz_own_label_set (host : Bytes) (o : Bool) (m m' : FMetric) (l : FLabelSet) (h : sameStatic m m') :
    varzRecord host o m l = varzRecord host o m' l :=
  of_sameStatic (varzRecord host o · l) (fun _ => rfl) h

/-- each graphite line of a label set ends with that label set's own timestamp, and the value
    line carries its own value; a histogram yields one line per bucket plus count plus value -/
theorem graphite_shape (p : Bytes) (m : FMetric) (l : FLabelSet) :
    let path := p ++ m.prog ++ [dot] ++ formatLabels m.name l.labels dot dot us
    (graphiteLines p m l).getLast? = some (path ++ [32] ++ l.datum.valueStr ++ [32] ++ l.datum.timeStr ++ [10]) ∧
    (∀ count bins, m.histBuckets = true → l.datum.hist = some (count, bins) →
      (graphiteLines p m l).length = bins.length + 2) ∧
    (m.histBuckets = false → (graphiteLines p m l).length = 1) := by
  intro path
  refine ⟨List.getLast?_concat .., ?_, ?_⟩
  · intro count bins hb hh
    simp only [graphiteLines, hb, hh, if_true, List.length_append, List.length_map, List.length_cons, List.length_nil]
  · intro hb
    simp only [graphiteLines, hb, Bool.false_eq_true, if_false, List.nil_append, List.length_cons, List.length_nil]

theorem one_record_per_label_set_handlers (f : FMetric → FLabelSet → Bytes) (ms : List FMetric) :
    handleAll (fun m l => [f m l]) ms = ms.flatMap (fun m => m.lsets.map (f m)) := by
  simp only [handleAll, ← List.map_eq_flatMap]

/-- exactly one formatter call per label set of each exported metric, in order -/
theorem one_record_per_label_set (f : FMetric → FLabelSet → Bytes) (ms : List FMetric) :
    pushAll (fun m l => [f m l]) ms =
      (ms.filter (fun m => m.kind ≠ 4)).flatMap (fun m => m.lsets.map (f m)) :=
  (pushAll_eq ..).trans (one_record_per_label_set_handlers f _)

/-- non-vacuity: two label sets of a histogram get their own bucket counts -/
example :
    let d1 : FDatum := ⟨str "1", str "10", some (str "1", [(str "1", str "1"), (str "inf", str "0")])⟩
    let d2 : FDatum := ⟨str "5", str "20", some (str "2", [(str "1", str "0"), (str "inf", str "2")])⟩
    let m : FMetric := ⟨str "h", str "p", 5, true, [⟨[(str "k", str "a")], d1⟩, ⟨[(str "k", str "b")], d2⟩]⟩
    graphiteLines [] m ⟨[(str "k", str "b")], d2⟩ =
      [str "p.h.k.b.bin_1 0 20\n", str "p.h.k.b.bin_inf 2 20\n", str "p.h.k.b.count 2 20\n", str "p.h.k.b 5 20\n"] := by
  decide +kernel

/-- C22 (a record names its own label set): two label sets of a metric (as many labels each) whose
    records carry the same name have the same keys with the same values, once separator bytes in
    them are written as the replacement text — for the graphite/statsd naming (`.`) and the
    collectd naming (`-`), any metric name, any keys and values.  So distinct label sets never share
    a record name except by the replacement of separators. -/
theorem record_name_determines_label_set (name : Bytes) (l1 l2 : FLabelSet) (sep : UInt8)
    (hsep : sep = dot ∨ sep = dash) (hlen : l1.labels.length = l2.labels.length)
    (h : formatLabels name l1.labels sep sep us = formatLabels name l2.labels sep sep us) :
    (sortByKey l1.labels).map (fun kv => (esc sep us kv.1, esc sep us kv.2)) =
    (sortByKey l2.labels).map (fun kv => (esc sep us kv.1, esc sep us kv.2)) :=
  have _ := hlen  -- not needed: only the empty label set gets the bare metric name
  formatLabels_determines name sep us (not_mem_us hsep) h

/-- … and for label keys and values without separator bytes (the stores the property speaks about)
    the name determines the label set outright: distinct label sets get distinct record names -/
theorem distinct_label_sets_distinct_names (name : Bytes) (l1 l2 : FLabelSet) (sep : UInt8)
    (hsep : sep = dot ∨ sep = dash) (hlen : l1.labels.length = l2.labels.length)
    (h1 : ∀ kv ∈ l1.labels, sep ∉ kv.1 ∧ sep ∉ kv.2) (h2 : ∀ kv ∈ l2.labels, sep ∉ kv.1 ∧ sep ∉ kv.2)
    (hne : sortByKey l1.labels ≠ sortByKey l2.labels) :
    formatLabels name l1.labels sep sep us ≠ formatLabels name l2.labels sep sep us :=
  have _ := hlen  -- not needed, as above
  fun h => hne (formatLabels_injective name sep us (not_mem_us hsep) h1 h2 h)

/-- two labels in key order: whatever the value under the first key, the name shows the value under the
    second, as it is written -/
theorem second_value_shows {ka kb : Bytes} (hk : bytesLt kb ka = false) {name x y1 y2 : Bytes} {sep : UInt8}
    {rep : Bytes} (hrep : sep ∉ rep)
    (h : formatLabels name [(ka, x), (kb, y1)] sep sep rep = formatLabels name [(ka, x), (kb, y2)] sep sep rep) :
    esc sep rep y1 = esc sep rep y2 := by
  have hs : ∀ y, sortByKey [(ka, x), (kb, y)] = [(ka, x), (kb, y)] := fun y => by simp [sortByKey, insertSorted, hk]
  have hd := formatLabels_determines name sep rep hrep h
  rw [hs, hs] at hd
  simpa using hd

/-- non-vacuity: label sets that agree on a long prefix and differ in the last value (what a name
    clipped at a fixed length would merge) get different names; a separator inside a value is what
    can make two names coincide -/
example : formatLabels (str "m") [(str "a", str "xxxxxxxxxxxxxxxxxxxxxxxxxxxxxxxxxxxxxxxxxxxxxxxxxxxxxxxxxxxxxxxxxxxx"), (str "b", str "1")] dash dash us
        ≠ formatLabels (str "m") [(str "a", str "xxxxxxxxxxxxxxxxxxxxxxxxxxxxxxxxxxxxxxxxxxxxxxxxxxxxxxxxxxxxxxxxxxxx"), (str "b", str "2")] dash dash us :=
  fun h => absurd (second_value_shows (by decide) (by decide) h) (by decide)
example : formatLabels (str "m") [(str "k", str "a-b")] dash dash us = formatLabels (str "m") [(str "k", str "a_b")] dash dash us := by decide +kernel

/-! ### regenerated control skeletons (written by lib/wire_skeletons.py) -/
/-- Obligations over regenerated facts: the functions this property's model stands for have the
    control skeleton the model was written against (`Proofs/Skeletons.lean`, one `rfl` per function
    or clause; DESIGN.md §11.6a) -/
theorem export_skeletons : Skeletons.ExportShape := Skeletons.export_shape
theorem f_metrics_store_skeletons : Skeletons.F_metrics_storeShape := Skeletons.f_metrics_store_shape
theorem f_exporter_export_skeletons : Skeletons.F_exporter_exportShape := Skeletons.f_exporter_export_shape
theorem f_exporter_graphite_skeletons : Skeletons.F_exporter_graphiteShape := Skeletons.f_exporter_graphite_shape
theorem f_exporter_varz_skeletons : Skeletons.F_exporter_varzShape := Skeletons.f_exporter_varz_shape
theorem f_exporter_json_skeletons : Skeletons.F_exporter_jsonShape := Skeletons.f_exporter_json_shape
theorem f_exporter_statsd_skeletons : Skeletons.F_exporter_statsdShape := Skeletons.f_exporter_statsd_shape
theorem f_exporter_collectd_skeletons : Skeletons.F_exporter_collectdShape := Skeletons.f_exporter_collectd_shape

end MtailVerif.C22
