import MtailVerif.Proofs.Key
import MtailVerif.Proofs.MetricRefine
import MtailVerif.Proofs.Skeletons
/-! # C09 — A metric behaves as a map from label tuples to values

    `Metric.step` is the model of the Go methods (`GetDatum`, writes through the returned
    datum, `RemoveDatum`, `ExpireDatum`, `FindLabelValueOrNil`, `EmitLabelSets`) over both
    representations the Go code keeps; `Spec.step` is an insertion-ordered association list.
    Injectivity of the key encoding (C08) is *used*, not assumed. -/
namespace MtailVerif.C09
open MtailVerif MtailVerif.Metric

variable {V : Type}

/-- a reachable metric: any operation sequence from the empty metric of arity `n` -/
def reach (n : Nat) (mk : V) (ops : List (Op V)) : Metric V := runOps mk { nkeys := n } ops

/-- C09 (refinement, every history): the metric's content after any operation sequence is the
    insertion-ordered map's content after the same sequence, and the invariant holds. -/
theorem metric_refines_ordered_map (n : Nat) (mk : V) (ops : List (Op V)) :
    Inv (reach n mk ops) ∧ abs (reach n mk ops) = Spec.runOps n mk [] ops :=
  let h := runOps_refines Key.encode_inj mk ops (inv_init n)
  ⟨h.1, h.2.1⟩

/-- C09 (every step, every reachable state): each operation returns what the map returns. -/
theorem every_step_agrees (n : Nat) (mk : V) (ops : List (Op V)) (op : Op V) :
    let m := reach n mk ops
    (step mk m op).2 = (Spec.step n mk (abs m) op).2 ∧
    abs (step mk m op).1 = (Spec.step n mk (abs m) op).1 := by
  intro m
  obtain ⟨hi, -, hn⟩ := runOps_refines Key.encode_inj mk ops (inv_init n)
  obtain ⟨-, h2, h3, -⟩ := step_refines Key.encode_inj mk m hi op
  exact (show m.nkeys = n from hn) ▸ ⟨h3, h2⟩

/-- enumeration lists each live tuple exactly once -/
theorem emit_each_live_tuple_once (n : Nat) (mk : V) (ops : List (Op V)) :
    ((emit (reach n mk ops)).map (·.1)).Nodup := by
  have hi := (metric_refines_ordered_map n mk ops).1
  have := hi.labels_nodup
  simpa [emit, Function.comp_def] using this

/-- deleting an absent tuple is a no-op (spec level; transfers by `every_step_agrees`) -/
theorem remove_absent_noop (n : Nat) (mk : V) (s : Spec V) (l : List Bytes) (h : findS l s = none) :
    (Spec.step n mk s (.remove l)).1 = s := by
  have e : eraseS l s = s := by
    rw [eraseS_eq]; exact List.eraseP_of_forall_not (List.find?_eq_none.mp (findS_eq l s ▸ h))
  simp only [Spec.step]; split <;> simp [e]

/-- marking expiry on an absent tuple is an error and changes nothing -/
theorem expire_absent_error (n : Nat) (mk : V) (s : Spec V) (x : Int) (l : List Bytes)
    (hl : l.length = n) (h : findS l s = none) :
    Spec.step n mk s (.expire x l) = (s, .err .noDatum) := by
  simp [Spec.step, hl, h]

/-- tuples of the wrong length are rejected without changing anything (model level) -/
theorem wrong_arity_rejected_unchanged (mk : V) (m : Metric V) (l : List Bytes) (h : l.length ≠ m.nkeys)
    (f : V → V) (x : Int) :
    step mk m (.get l) = (m, .err .arity) ∧ step mk m (.set l f) = (m, .err .arity) ∧
    step mk m (.remove l) = (m, .err .arity) ∧ step mk m (.expire x l) = (m, .err .arity) := by
  simp [step, getDatum, removeDatum, expireDatum, h]

/-! ### frame: operating on one tuple never touches another (second clause of C08) -/

/-- the operations that address a tuple -/
def Op.target : Op V → Option (List Bytes)
  | .get l => some l | .set l _ => some l | .remove l => some l | .expire _ l => some l
  | .find _ => none | .emit => none

/-- C08/C09 frame (spec level): an operation addressed to tuple `a` leaves the entry of every
    other tuple `b` — presence, value and expiry — exactly as it was. -/
theorem frame_spec (n : Nat) (mk : V) (s : Spec V) (op : Op V) (b : List Bytes)
    (h : ∀ a, Op.target op = some a → a ≠ b) :
    findS b (Spec.step n mk s op).1 = findS b s := by
  -- each branch of `Spec.step` leaves the map as it is or writes at the addressed tuple: an append, a `modS`, an `eraseS`
  cases op with
  | find l | emit => rfl
  | get l =>
    simp only [Spec.step]
    split
    · rfl                                       -- wrong arity
    · split
      · rfl                                     -- found
      · exact findS_append_of_ne (h l rfl)      -- created
  | set l f =>
    simp only [Spec.step]
    split
    · rfl
    · split
      · exact findS_modS_of_ne (h l rfl) fun _ => rfl   -- found and written
      · exact findS_append_of_ne (h l rfl)
  | remove l =>
    simp only [Spec.step]
    split
    · rfl
    · exact findS_eraseS_of_ne (h l rfl)
  | expire x l =>
    simp only [Spec.step]
    split
    · rfl
    · split
      · exact findS_modS_of_ne (h l rfl) fun _ => rfl
      · rfl                                     -- absent: an error

/-- frame on the model of the Go code, for every reachable metric -/
theorem frame_model (n : Nat) (mk : V) (ops : List (Op V)) (op : Op V) (b : List Bytes)
    (h : ∀ a, Op.target op = some a → a ≠ b) :
    findS b (abs (step mk (reach n mk ops) op).1) = findS b (abs (reach n mk ops)) := by
  rw [(every_step_agrees n mk ops op).2]
  exact frame_spec n mk _ op b h

/-- C08 (datum level): two tuples of the right arity address the same datum iff they are
    equal: looking both up yields the same label-value identity exactly when `a = b`. -/
theorem same_datum_iff_equal_tuple (mk : V) (m : Metric V) (hi : Inv m) (a b : List Bytes)
    (ha : a.length = m.nkeys) (hb : b.length = m.nkeys) :
    ∀ m1 ida m2 idb, getDatum m mk a = .ok (m1, ida) → getDatum m1 mk b = .ok (m2, idb) →
      (ida = idb ↔ a = b) := by
  intro m1 ida m2 idb h1 h2
  obtain ⟨hi1, hk1, lva, hfa, rfl⟩ := getDatum_post Key.encode_inj hi mk ha h1
  cases hfb : m1.lvs.find? (·.labels = b) with
  | some lvb =>
    rw [getDatum_found Key.encode_inj hi1 mk (hk1 ▸ hb) hfb] at h2; cases h2
    obtain ⟨hmb, rfl⟩ := find?_key hfb
    -- in the slice, to have `lva`'s identity is to have the labels `a`; `lvb` has the labels `b`
    exact eq_comm.trans ((decide_eq_decide.mp (id_iff_labels hi1 hfa lvb hmb)).trans eq_comm)
  | none =>
    -- `b` gets the next identity, above every identity in use
    rw [getDatum_new Key.encode_inj hi1 mk (hk1 ▸ hb) hfb] at h2; cases h2
    exact ⟨fun e => absurd e (Nat.ne_of_lt (hi1.ids_lt _ (List.mem_of_find?_eq_some hfa))),
      by rintro rfl; rw [hfa] at hfb; cases hfb⟩

/-! non-vacuity: a concrete history over two tuples, one containing the separator -/
example : (abs (reach 1 (0 : Int)
    [.set [[45]] (· + 1), .set [[97]] (· + 5), .expire 7 [[45]], .remove [[97]], .get [[92]]])).map
      (fun e => (e.labels, e.value, e.expiry)) = [([[45]], 1, 7), ([[92]], 0, 0)] := by decide

/-! ### regenerated control skeletons (written by lib/wire_skeletons.py) -/
/-- Obligations over regenerated facts: the functions this property's model stands for have the
    control skeleton the model was written against (`Proofs/Skeletons.lean`, one `rfl` per function
    or clause; DESIGN.md §11.6a) -/
theorem metric_skeletons : Skeletons.MetricShape := Skeletons.metric_shape
theorem datum_skeletons : Skeletons.DatumShape := Skeletons.datum_shape
theorem f_datum_datum_skeletons : Skeletons.F_datum_datumShape := Skeletons.f_datum_datum_shape
theorem f_metrics_metric_skeletons : Skeletons.F_metrics_metricShape := Skeletons.f_metrics_metric_shape
theorem f_datum_int_skeletons : Skeletons.F_datum_intShape := Skeletons.f_datum_int_shape
theorem f_datum_float_skeletons : Skeletons.F_datum_floatShape := Skeletons.f_datum_float_shape
theorem f_datum_string_skeletons : Skeletons.F_datum_stringShape := Skeletons.f_datum_string_shape

end MtailVerif.C09
