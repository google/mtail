import MtailVerif.Proofs.ExportLocks
import MtailVerif.Generated.ExportLocks
import MtailVerif.Proofs.Skeletons
/-! # C12 — No export attempt can leave metrics locked or stall processing

    `Generated.ExportLocks.all` holds, for each exporter loop, the lock/emitter skeleton
    regenerated from the Go AST on every run.  `safe` is a syntactic check; `safe_sound`
    (Proofs/ExportLocks.lean) shows that a safe skeleton, run on a metric with any number of
    label sets under any fault plan, ends with the read lock released, no emitter goroutine
    left blocked on its channel, and no unlock of an unheld lock. -/
namespace MtailVerif.C12
open MtailVerif.ExportLocks

/-- Obligation over regenerated facts: every exporter loop in the current source is safe. -/
theorem skeletons_safe : ∀ p ∈ Generated.ExportLocks.all, safe p.2 = true := by decide

/-- the four loops the property names are the ones extracted -/
theorem skeletons_named :
    Generated.ExportLocks.all.map (·.1) = ["Collect", "writeSocketMetrics", "HandleVarz", "HandleGraphite"] := rfl

/-- C12: for every exporter loop, every number of label sets `n`, every fault plan (which
    label set is unrepresentable, which write fails, where the request is cancelled) and every
    run that finishes: the metric's read lock is released, no emitter is left blocked. -/
theorem export_releases (p : String × List Stmt) (hp : p ∈ Generated.ExportLocks.all)
    (n fuel : Nat) (plan : List Bool) (o : Outcome) (rest : List Bool)
    (hex : exec n fuel p.2 ⟨0, .none, false⟩ plan = some (o, rest)) : GoodOutcome o :=
  safe_sound p.2 (skeletons_safe p hp) n fuel plan o rest hex

/-- hence a subsequent writer (line processing taking `m.Lock()`) is not blocked by this export -/
theorem writer_not_blocked (c : C) (h : Good c) : c.readers = 0 := h.1

/-- **the JSON export** (`HandleJSON` → `Store.MarshalJSON`, regenerated): whatever the encoder
    answers — success, or a value JSON cannot represent such as NaN or ±Inf — the attempt ends with
    the store's lock and every metric's lock released, and the handler itself takes none. -/
theorem json_export_releases :
    runJ Generated.ExportLocks.marshalJSON {} [] = some { store := 0, metrics := 0, collected := true } ∧
      Generated.ExportLocks.jsonHandlerLockOps = 0 := by decide

/-- the check is not vacuous: locking each metric inside the encoding loop and returning on an
    encoder error (statements the model does not know) is not accepted, and forgetting the deferred
    release leaves every metric read-locked -/
example : runJ [.rlockStore, .deferRUnlockStore, .decl, .collect, .unknown, .retMarshal] {} [] = none := by decide
example : runJ [.rlockStore, .deferRUnlockStore, .decl, .collect, .rlockAll, .retMarshal] {} [] =
    some { store := 0, metrics := 1, collected := true } := by decide

/-- non-vacuity: the Prometheus collector loop on a metric with 3 label sets, with the second
    label set unrepresentable, finishes (does not run out of fuel) and is `Good` -/
example : (exec 3 200 Generated.ExportLocks.collect ⟨0, .none, false⟩
    (List.replicate 20 false ++ [true])).map (·.1) = some (.returned ⟨0, .done, false⟩) := by
  decide

/-- the check is not vacuous either: the pre-repair shape of `Collect` (early `return` inside
    the receive loop) is rejected, and really does leak on a concrete plan -/
example : safe [.rlock, .spawn, .loop [.ifs [.ret]], .runlock, .ret] = false := by decide
example : exec 2 50 [.rlock, .spawn, .loop [.ifs [.ret]], .runlock, .ret] ⟨0, .none, false⟩ [true]
    = some (.returned ⟨1, .running 1, false⟩, []) := by decide

/-- **"…or stall processing", the push side** (obligation over regenerated facts): `PushMetrics`
    sets a deadline on the connection it dialled before it hands it to anything that writes — the
    writes happen with a metric's read lock held, and a peer that accepted and then stopped reading
    would otherwise hold that lock for ever.  (That a write on a connection with a deadline returns
    by the deadline is the runtime's, §11.6.) -/
theorem push_writes_have_a_deadline :
    deadlineBeforeWrites false Generated.ExportLocks.pushConnCalls = true ∧
      Generated.ExportLocks.pushConnCalls = ["DialTimeout", "SetDeadline", "writeSocketMetrics", "Close"] :=
  ⟨by decide, rfl⟩

/-- what that says, for any list of calls: every writing call has a deadline-setting call before it -/
theorem push_every_write_is_bounded (pre : List String) (w : String) (post : List String)
    (hcs : Generated.ExportLocks.pushConnCalls = pre ++ w :: post)
    (hw : connQuiet w = false) (hwb : connBounds w = false) : ∃ d ∈ pre, connBounds d = true := by
  rcases deadlineBeforeWrites_sound false pre w post (hcs ▸ push_writes_have_a_deadline.1) hw hwb with h | h
  · cases h
  · exact h

/-- not vacuous: dialling with a context deadline and writing (the context governs the dial only) is refused -/
example : deadlineBeforeWrites false ["DialContext", "writeSocketMetrics", "Close"] = false := by decide

/-! ### regenerated control skeletons (written by lib/wire_skeletons.py) -/
/-- Obligations over regenerated facts: the functions this property's model stands for have the
    control skeleton the model was written against (`Proofs/Skeletons.lean`, one `rfl` per function
    or clause; DESIGN.md §11.6a) -/
theorem export_skeletons : Skeletons.ExportShape := Skeletons.export_shape
theorem f_exporter_prometheus_skeletons : Skeletons.F_exporter_prometheusShape := Skeletons.f_exporter_prometheus_shape
theorem f_metrics_metric_skeletons : Skeletons.F_metrics_metricShape := Skeletons.f_metrics_metric_shape
theorem f_exporter_export_skeletons : Skeletons.F_exporter_exportShape := Skeletons.f_exporter_export_shape
theorem f_exporter_graphite_skeletons : Skeletons.F_exporter_graphiteShape := Skeletons.f_exporter_graphite_shape
theorem f_exporter_varz_skeletons : Skeletons.F_exporter_varzShape := Skeletons.f_exporter_varz_shape

end MtailVerif.C12
