import MtailVerif.Proofs.Runtime
import MtailVerif.Generated.Runtime
import MtailVerif.Proofs.Skeletons
import MtailVerif.Generated.Reload
import MtailVerif.Proofs.DispatchRace
/-! # C06 — Programs are isolated from each other -/
namespace MtailVerif.C06
open MtailVerif MtailVerif.Runtime

/-- the metrics of program `p` under one name -/
def proj (p : Bytes) (s : Store) (n : Bytes) : List SMetric := (s.get n).filter (fun m => m.prog = p)

/-- Obligation over regenerated facts: the dedupe scan of `Store.Add` skips metrics of other
    programs first. -/
theorem add_skips_other_programs : Generated.Runtime.addSkipConds.head? = some "v.Program != m.Program" := rfl

/-- Registering a metric of program `q` leaves every metric of every other program `p` exactly
    as it was — same objects, same data, same order — under every name.  In particular a metric
    of one program is never replaced by or merged with a same-named metric of another. -/
theorem add_preserves_other_programs (ce : Bool) (s s' : Store) (m : SMetric) (p : Bytes) (hp : m.prog ≠ p)
    (h : s.add ce m = .ok s') (n : Bytes) : proj p s' n = proj p s n := by
  obtain ⟨final, rfl, hf⟩ := add_ok h
  unfold proj
  rw [get_set]
  split
  · next hn => rw [hn, hf _ fun x hx => by simp [hx, hp]]
  · rfl

/-- the only permitted interaction: refusal on a kind conflict (see also C14) -/
theorem refused_only_on_kind_conflict (ce : Bool) (s : Store) (m : SMetric) (e : AddErr)
    (h : s.add ce m = .error e) : ∃ first rest, s.get m.name = first :: rest ∧ m.kind ≠ first.kind :=
  (add_error_iff ce s m).mp ⟨e, h⟩

/-- a line processed by program `q` only touches metrics of `q` -/
theorem line_effect_is_local (q p : Bytes) (d : SMetric) (labels : List Bytes) (s : Store) (hq : q ≠ p) (n : Bytes) :
    proj p (applyEffect q d labels s) n = proj p s n := by
  unfold proj
  rw [get_applyEffect]
  split
  · refine filter_map_outside fun y => ?_
    split
    · next hy =>
      have hinc : (incAt y labels).prog = q := by unfold incAt; split <;> exact hy.1
      exact .inr ⟨by simp [hy.1, hq], by simp [hinc, hq]⟩
    · exact .inl rfl
  · rfl

/-! ### the dispatcher's lock (Model/DispatchRace.lean) -/
/-- Obligation over a regenerated fact, and what it is for: `runtime.New`'s dispatcher holds the
    handle table's read lock from reading a program's channel to the end of the send (the fact),
    and under that discipline no schedule of the dispatcher's and any number of loaders' steps
    sends a line on a closed channel, or to a generation other than the installed one. -/
theorem dispatcher_sends_under_lock :
    Generated.Reload.fanoutHoldsReadLockAcrossSends = true ∧
      (∀ as : List DispatchRace.Act, (DispatchRace.run true {} as).bad = false) ∧
      (∀ as : List DispatchRace.Act, ∀ g ∈ (DispatchRace.run true {} as).sent, g ≤ (DispatchRace.run true {} as).gen) :=
  ⟨by decide, DispatchRace.send_under_lock_never_on_closed, DispatchRace.send_under_lock_to_installed⟩

/-- a dispatcher that copies the channels under the lock and sends after releasing it: the loader
    gets in between and the line goes to a closed channel (a panic that ends the process) -/
theorem sending_after_unlock_is_unsafe :
    (DispatchRace.run false {} [.dLock, .dSnap, .dUnlock, .lLock, .lSwap, .lUnlock, .dSend]).bad = true :=
  DispatchRace.send_after_unlock_hits_closed

/-! ### regenerated control skeletons (written by lib/wire_skeletons.py) -/
/-- Obligations over regenerated facts: the functions this property's model stands for have the
    control skeleton the model was written against (`Proofs/Skeletons.lean`, one `rfl` per function
    or clause; DESIGN.md §11.6a) -/
theorem loader_skeletons : Skeletons.LoaderShape := Skeletons.loader_shape
theorem f_runtime_runtime_skeletons : Skeletons.F_runtime_runtimeShape := Skeletons.f_runtime_runtime_shape
theorem f_metrics_store_skeletons : Skeletons.F_metrics_storeShape := Skeletons.f_metrics_store_shape
theorem f_exporter_prometheus_skeletons : Skeletons.F_exporter_prometheusShape := Skeletons.f_exporter_prometheus_shape

end MtailVerif.C06
