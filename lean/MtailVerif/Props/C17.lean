import MtailVerif.Proofs.Conn
import MtailVerif.Generated.Conn
import MtailVerif.Proofs.Skeletons
import MtailVerif.Proofs.AcceptRace
/-! # C17 — Pipes and sockets deliver all bytes, never splice connections, then end -/
namespace MtailVerif.C17
open MtailVerif MtailVerif.Conn MtailVerif.Reader

/-- Obligations over regenerated facts: each connection handler creates its own LineReader and
    flushes it when it ends; pipe and datagram streams flush before closing their output; the
    closer goroutine waits for the first connection OR cancellation. -/
theorem conn_source_shape :
    Generated.Conn.readerPerConnection = true ∧ Generated.Conn.handleConnFinishes = true ∧
    Generated.Conn.fifoFinishes = true ∧ Generated.Conn.dgramFinishes = true ∧
    Generated.Conn.closerWaitsForCancelToo = true := ⟨rfl, rfl, rfl, rfl, rfl⟩

/-- every reachable state satisfies the invariant: each open connection has delivered exactly the
    complete lines of what it has read so far, with its remainder in its own reader -/
theorem reachable_inv (cfg : Cfg) (evs : List Ev) : Inv (run cfg {} evs) := run_inv cfg evs {} inv_init

/-- C17 (per connection, data): after any history, more bytes on connection `c` make exactly the
    lines they complete appear — in that connection's own line sequence, and in nobody else's -/
theorem data_delivers_own_lines (cfg : Cfg) (evs : List Ev) (c : Nat) (chunk : Bytes) (h : Handler)
    (hf : (run cfg {} evs).conns.find? (·.id = c) = some h) :
    let s := run cfg {} evs
    proj c (step cfg s (.data c chunk)).out = (spec [] (h.seen ++ chunk)).1 ∧
    ∀ c', c' ≠ c → proj c' (step cfg s (.data c chunk)).out = proj c' s.out :=
  (step_data cfg _ (reachable_inv cfg evs) c chunk h hf).2

/-- C17 (per connection, close): when the peer closes, that connection has delivered, in order
    and once each, exactly the newline-split of everything it sent, its unterminated tail last;
    lines of different connections are never merged -/
theorem close_delivers_tail_once (cfg : Cfg) (evs : List Ev) (c : Nat) (h : Handler)
    (hf : (run cfg {} evs).conns.find? (·.id = c) = some h) :
    let s := run cfg {} evs
    proj c (step cfg s (.close c)).out = specLines h.seen ∧
    ∀ c', c' ≠ c → proj c' (step cfg s (.close c)).out = proj c' s.out :=
  (step_close cfg _ (reachable_inv cfg evs) c h hf).2

/-- C17 (end): with the closer of the current source, cancellation from any state — also before
    any connection was accepted — ends every handler and closes the output -/
theorem output_closes_after_cancel (oneShot : Bool) (s : S) :
    (step ⟨oneShot, Generated.Conn.closerWaitsForCancelToo⟩ s .cancel).linesClosed = true :=
  (cancel_closes _ conn_source_shape.2.2.2.2 s).1

/-- the pre-repair closer (waiting for the first connection only) never closes the output of a
    listener that is cancelled before any client connects -/
example : (run ⟨false, false⟩ {} [.cancel]).linesClosed = false := by decide

/-- non-vacuity: two interleaved connections -/
example : (run ⟨false, true⟩ {} [.accept 1, .accept 2, .data 1 [97], .data 2 [98, 10], .data 1 [10, 99],
    .close 1, .cancel]).out = [(2, [98]), (1, [97]), (1, [99])] := by decide

/-- C17 (shutdown, at the level of the wait group): the accept loop counts a connection before it
    calls `Accept` (regenerated: `acceptCountsFirst`), and the closer closes the listener, waits
    for the count and only then closes the lines channel (`closerClosesWaitsCloses`).  Under that
    protocol no schedule whatever — of the cancellation, of clients connecting, of handlers sending
    and returning, of the closer — has a handler send on the closed channel, which in Go is a
    panic that ends the process. -/
theorem no_send_on_closed_lines (acts : List AcceptRace.Act) (s : AcceptRace.S)
    (h : AcceptRace.run Generated.Conn.acceptCountsFirst {} acts = some s) :
    Generated.Conn.closerClosesWaitsCloses = true ∧ s.bad = false := by
  have e : Generated.Conn.acceptCountsFirst = true := by decide
  rw [e] at h
  exact ⟨by decide, AcceptRace.count_first_never_sends_on_closed acts s h⟩

/-- … and this is what the order buys: counted after `Accept`, as the source did before 5065e9bc,
    a client accepted just before the cancellation gets a handler that sends on the closed channel -/
theorem counting_after_accept_is_unsafe :
    (AcceptRace.run false {} [.acceptOk, .cancel, .closeListener, .closeLines, .loopAdd, .spawn, .send]).map (·.bad) = some true := by
  decide

/-- non-vacuity: a complete schedule under the source's protocol — two clients, cancellation between
    them, everything wound down, the lines channel closed, nothing sent on it afterwards -/
example : (AcceptRace.run true {} [.loopAdd, .acceptOk, .spawn, .send, .loopAdd, .acceptOk, .cancel, .spawn, .closeListener,
      .send, .finish, .loopAdd, .acceptFail, .send, .finish, .closeLines]).map (fun s => (s.bad, s.cpc, s.count)) =
    some (false, .linesClosed, 0) := by decide

/-! ### regenerated control skeletons (written by lib/wire_skeletons.py) -/
/-- Obligations over regenerated facts: the functions this property's model stands for have the
    control skeleton the model was written against (`Proofs/Skeletons.lean`, one `rfl` per function
    or clause; DESIGN.md §11.6a) -/
theorem streams_skeletons : Skeletons.StreamsShape := Skeletons.streams_shape
theorem dispatch_skeletons : Skeletons.DispatchShape := Skeletons.dispatch_shape
theorem f_logstream_fifostream_skeletons : Skeletons.F_logstream_fifostreamShape := Skeletons.f_logstream_fifostream_shape
theorem f_logstream_socketstream_skeletons : Skeletons.F_logstream_socketstreamShape := Skeletons.f_logstream_socketstream_shape
theorem f_logstream_dgramstream_skeletons : Skeletons.F_logstream_dgramstreamShape := Skeletons.f_logstream_dgramstream_shape
theorem f_logstream_cancel_skeletons : Skeletons.F_logstream_cancelShape := Skeletons.f_logstream_cancel_shape
theorem f_logstream_logstream_skeletons : Skeletons.F_logstream_logstreamShape := Skeletons.f_logstream_logstream_shape

end MtailVerif.C17
