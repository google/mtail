import MtailVerif.Proofs.VMTime
import MtailVerif.Proofs.VMFrame
import MtailVerif.Props.C05
import MtailVerif.Proofs.Skeletons
/-! # C07 — timestamps follow strptime/settime and default to processing time

    The library's `time.Parse`/`ParseInLocation` (with the configured zone and, when the option is
    on, the zero year replaced by the current year) is the oracle `timeParse`; what mtail does with
    it — which instant ends up in the time register, what `timestamp()` returns, what a datum is
    stamped with, and that none of this depends on earlier parses — is proved here. -/
namespace MtailVerif.C07
open MtailVerif MtailVerif.VM

/-- after a successful `strptime(value, layout)` the register holds the parsed instant — for every
    memo content reachable by any history — and a failed parse is the checked runtime error -/
theorem strptime_result (o : Oracle) (p : Prog) (fuel : Nat) (hist : List Input) (st0 : MStore) (t : Thread)
    (st : MStore) (layout value : Bytes) (rest : List Val) (hstk : t.stack = .str layout :: .str value :: rest) :
    (stepStrptime o t st (C05.after o p fuel hist st0 []).2).1 =
      match o.timeParse layout value with
      | some tm => .next { t with stack := rest, time := tm } st
      | none => .err .timeParseFailed st :=
  strptime_sets_register o t st _ (C05.memo_coherent o p fuel hist st0 [] (coherent_nil o)) layout value rest hstk

/-- `timestamp()` returns the register's instant in seconds, or the wall clock when it is unset -/
theorem timestamp_result (o : Oracle) (p : Prog) (inp : Input) (t : Thread) (st : MStore) :
    stepCore o p inp ⟨.timestamp, .none⟩ t st =
      .next { t with stack := .i64 (if t.time = zeroT then o.nowSec else t.time / 1000000000) :: t.stack } st :=
  timestamp_reads_register o p inp .none t st

/-- a parsed instant with whole seconds `s` reads back as `s` -/
theorem timestamp_after_strptime (o : Oracle) (p : Prog) (inp : Input) (t : Thread) (st : MStore) (tm : T)
    (ht : t.time = tm) (hz : tm ≠ zeroT) :
    stepCore o p inp ⟨.timestamp, .none⟩ t st = .next { t with stack := .i64 (tm / 1000000000) :: t.stack } st := by
  rw [timestamp_reads_register, ht, if_neg hz]

/-- `settime(n)` then `timestamp()` gives `n`, except for the reserved instant -/
theorem settime_then_timestamp (o : Oracle) (p : Prog) (inp : Input) (t : Thread) (st : MStore) (n : Int)
    (rest : List Val) (hstk : t.stack = .i64 n :: rest) (hn : n ≠ -62135596800) :
    ∃ t1, stepCore o p inp ⟨.settime, .none⟩ t st = .next t1 st ∧
      stepCore o p inp ⟨.timestamp, .none⟩ t1 st = .next { t1 with stack := .i64 n :: rest } st := by
  refine ⟨_, settime_sets_register o p inp .none t st (by rw [hstk]; rfl), ?_⟩
  exact timestamp_after_settime o p inp _ st n hn rfl

/-- the register survives every other instruction, so it still holds at each later datum update and
    `timestamp()` of the line -/
theorem register_kept (o : Oracle) (p : Prog) (inp : Input) (i : Instr) (t : Thread) (st : MStore) (memo : Memo)
    (h1 : i.op ≠ .settime) (h2 : i.op ≠ .strptime) (t' : Thread) (st' : MStore)
    (h : (step o p inp i t st memo).1 = .next t' st') : t'.time = t.time := by
  simp only [step, if_neg h2] at h
  exact (stepCore_next_time h1 h :)

/-- every datum update (`++ -- += =` on any metric, observation of a histogram) carries the
    register's instant, or the wall clock when the register is unset -/
theorem datum_updates_carry_register (o : Oracle) (d d' : Datum) (tm : T) :
    (∀ delta, incIntD d delta (stampOf tm) = some d' → d'.time = stampOf tm) ∧
    (∀ v, setIntD o d v (stampOf tm) = some d' → d'.time = stampOf tm) ∧
    (∀ v, setFloatD o d v (stampOf tm) = some d' → d'.time = stampOf tm) ∧
    (∀ v, setStringD d v (stampOf tm) = some d' → d'.time = stampOf tm) := by
  obtain ⟨val, t0⟩ := d
  refine ⟨?_, ?_, ?_, ?_⟩ <;> intro v h <;> cases val <;>
    simp [incIntD, setIntD, setFloatD, setStringD] at h <;> subst h <;> rfl

theorem stamp_is_register (tm : T) (hz : tm ≠ zeroT) (h1 : -9223372036854775808 ≤ tm)
    (h2 : tm < 9223372036854775808) : stampOf tm = some tm := by
  rw [stampOf_set tm hz, wrap_id tm h1 h2]

theorem stamp_default_now : stampOf zeroT = none := if_pos rfl

/-- the reserved instant: `settime(-62135596800)` leaves the register "unset" -/
theorem reserved_instant : (-62135596800 : Int) * 1000000000 = zeroT := by decide

/-! ### regenerated control skeletons (written by lib/wire_skeletons.py) -/
/-- Obligations over regenerated facts: the functions this property's model stands for have the
    control skeleton the model was written against (`Proofs/Skeletons.lean`, one `rfl` per function
    or clause; DESIGN.md §11.6a) -/
theorem datum_skeletons : Skeletons.DatumShape := Skeletons.datum_shape
theorem exec_skeletons : Skeletons.ExecShape := Skeletons.exec_shape
theorem f_vm_vm_skeletons : Skeletons.F_vm_vmShape := Skeletons.f_vm_vm_shape
theorem f_datum_datum_skeletons : Skeletons.F_datum_datumShape := Skeletons.f_datum_datum_shape

end MtailVerif.C07
