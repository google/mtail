import MtailVerif.Proofs.Runtime
import MtailVerif.Generated.Runtime
import MtailVerif.Proofs.Skeletons
/-! # C26 — Program directory scanning loads exactly the eligible files -/
namespace MtailVerif.C26
open MtailVerif MtailVerif.Runtime

/-- Obligation over regenerated facts: the two file filters of `LoadProgram` and the extension. -/
theorem load_filters_shape :
    Generated.Runtime.loadProgramFilters = ["strings.HasPrefix(name, \".\")", "filepath.Ext(name) != fileExt"] ∧
    Generated.Runtime.fileExt = ".mtail" := ⟨rfl, rfl⟩

def eligibleName (n : Bytes) : Bool := !hasPrefixDot n && extIsMtail n

/-- an entry that is a directory, a dot-file or has another extension never changes anything -/
theorem ineligible_never_loaded (cfg : Cfg) (r : RT) (e : Entry)
    (h : (match e with | .dir _ => true | .file n _ => !eligibleName n | .unreadable n => !eligibleName n) = true) :
    loadProgram cfg r e = r := by
  cases e with
  | dir n => rfl
  | file n _ | unreadable n =>
    unfold loadProgram
    cases hd : hasPrefixDot n <;> cases hx : extIsMtail n <;> simp_all [eligibleName]

/-- `compileAndRun` only ever touches the handle of the program it is given -/
theorem compileAndRun_other_handles (cfg : Cfg) (r : RT) (name other : Bytes) (v : Version) (hne : other ≠ name) :
    (compileAndRun cfg r name v).handles.find? (·.1 = other) = r.handles.find? (·.1 = other) := by
  unfold compileAndRun
  cases decision cfg r name v with
  | loaded s' => exact (find?_setHandle ..).trans (if_neg hne)
  | _ => rfl

/-- after loading an eligible file that compiles and registers, exactly that content is running -/
theorem loaded_runs_latest (cfg : Cfg) (r : RT) (name : Bytes) (v : Version) (s' : Store)
    (h : decision cfg r name v = .loaded s') :
    (compileAndRun cfg r name v).handles.find? (·.1 = name) = some (name, ⟨v.hash, v⟩) := by
  simp only [compileAndRun, h]
  exact (find?_setHandle ..).trans (if_pos rfl)

/-- an unchanged file keeps running what it ran (hash short-circuit) -/
theorem unchanged_keeps_running (cfg : Cfg) (r : RT) (name : Bytes) (v : Version)
    (h : decision cfg r name v = .unchanged) : compileAndRun cfg r name v = r := by
  simp [compileAndRun, h]

/-- a failed load (compile error or refusal) keeps the previous version running -/
theorem broken_keeps_previous (cfg : Cfg) (r : RT) (name : Bytes) (v : Version)
    (h : ∀ s', decision cfg r name v ≠ .loaded s') : (compileAndRun cfg r name v).handles = r.handles :=
  handles_of_not_loaded cfg r name v h

/-- a removed program gets no further lines: after `unload` it has no handle -/
theorem unloaded_has_no_handle (r : RT) (name : Bytes) :
    (unload r name).handles.find? (·.1 = name) = none := by
  simp [unload, List.find?_eq_none]

/-! ### regenerated control skeletons (written by lib/wire_skeletons.py) -/
/-- Obligations over regenerated facts: the functions this property's model stands for have the
    control skeleton the model was written against (`Proofs/Skeletons.lean`, one `rfl` per function
    or clause; DESIGN.md §11.6a) -/
theorem loader_skeletons : Skeletons.LoaderShape := Skeletons.loader_shape
theorem f_runtime_runtime_skeletons : Skeletons.F_runtime_runtimeShape := Skeletons.f_runtime_runtime_shape

end MtailVerif.C26
