import MtailVerif.Proofs.Buckets
import MtailVerif.Generated.VM
import MtailVerif.Proofs.Skeletons
/-! # C21 — Histograms count every observation in exactly one bucket -/
namespace MtailVerif.C21
open MtailVerif.Buckets
variable {S : Type}

/-- Obligations over regenerated facts: the comparison and fall-through in `Observe`, and the
    first-boundary test of the code generator, are the ones the model encodes. -/
theorem observe_shape :
    Generated.Buckets.observeCond = "v <= b.Range.Max || i == n" ∧
    Generated.Buckets.observeLastIdx = "len(d.Buckets) - 1" ∧
    Generated.Buckets.observeBreaks = true ∧
    Generated.Buckets.observeCountIncs = 1 := ⟨rfl, rfl, rfl, rfl⟩

theorem decl_shape :
    Generated.Buckets.declFirstCond = "n.Buckets[0] > 0" ∧
    Generated.Buckets.declSortedCond = "max <= min" := ⟨rfl, rfl⟩

/-- a histogram datum as created for a declaration with the given boundaries -/
def fresh (s0 : S) (decl : List FV) : Option (B S) := (rangesOfDecl decl).map (make s0)

/-- every observation increments exactly one bucket, by one: the bucket at `target`, which is
    the first whose upper bound is at least the value, or the last bucket when there is none;
    every other bucket keeps its count and every bucket keeps its range -/
theorem observe_exactly_one_bucket (add : S → FV → S) (d : B S) (v : FV) (j : Nat) :
    (observe add d v).buckets[j]? =
      (d.buckets[j]?).map (fun p => if j = target v d.buckets then (p.1, p.2 + 1) else p) := by
  simp only [observe, bump_eq_modify, List.getElem?_modify, eq_comm (a := j)]
  rfl

theorem target_is_first_fitting (d : B S) (v : FV) (hne : d.buckets ≠ []) :
    target v d.buckets < d.buckets.length ∧
    (∀ j < target v d.buckets, ∃ p, d.buckets[j]? = some p ∧ le v p.1.max = false) ∧
    ((∃ p, d.buckets[target v d.buckets]? = some p ∧ le v p.1.max = true) ∨
      target v d.buckets = d.buckets.length - 1) := by
  have hlt := target_lt v _ hne
  rw [target_eq_findIdx] at hlt ⊢
  refine ⟨hlt, fun j hj => ?_, ?_⟩
  · exact ⟨_, List.getElem?_eq_getElem _,
      List.not_of_lt_findIdx (Nat.lt_of_lt_of_le hj (Nat.min_le_left ..))⟩
  · by_cases h : d.buckets.findIdx (fun p => le v p.1.max) ≤ d.buckets.length - 1
    · rw [Nat.min_eq_left h]
      exact .inl ⟨_, List.getElem?_eq_getElem (by omega),
        List.findIdx_getElem (p := fun p : Range × Nat => le v p.1.max)⟩
    · exact .inr (Nat.min_eq_right (by omega))

/-- a value above every bound goes to the last bucket -/
theorem above_all_goes_to_last (d : B S) (v : FV) (h : ∀ p ∈ d.buckets, le v p.1.max = false) :
    target v d.buckets = d.buckets.length - 1 := by
  rw [target_eq_findIdx, List.findIdx_eq_length_of_false h]
  exact Nat.min_eq_right (Nat.sub_le ..)

/-- NaN goes to the last bucket -/
theorem nan_goes_to_last (d : B S) : target .nan d.buckets = d.buckets.length - 1 :=
  above_all_goes_to_last d .nan fun _ _ => le_nan _

/-- for a declared histogram the last bucket is the +Inf bucket, and no extra bucket is added -/
theorem declared_last_is_inf (s0 : S) (decl : List FV) (d : B S) (h : fresh s0 decl = some d) :
    (d.buckets.map (·.1.max)).getLast? = some pinf := by
  obtain ⟨rs, hrs, rfl⟩ := Option.map_eq_some_iff.mp h
  obtain ⟨b0, rest, -, hmax⟩ := rangesOfDecl_maxes decl rs hrs
  -- +Inf is among the declared ranges, so `make` adds none
  have hany : rs.any (fun r => isPInf r.max) = true := by
    have : pinf ∈ rs.map (·.max) := by simp [hmax]
    obtain ⟨r, hr, hrm⟩ := List.mem_map.mp this
    exact List.any_eq_true.mpr ⟨r, hr, by simp [isPInf, hrm]⟩
  simp only [make, hany, if_true, List.map_map, Function.comp_def]
  exact hmax ▸ List.getLast?_concat ..

/-- bucket counts always sum to the observation count, and the sum is the fold of the
    observed values — for every declaration and every observation sequence -/
theorem sum_buckets_eq_count (add : S → FV → S) (s0 : S) (ranges : List Range) (vs : List FV) :
    let d := observeAll add (make s0 ranges) vs
    total d.buckets = d.count ∧ d.count = vs.length ∧ d.sum = vs.foldl add s0 := by
  have := observeAll_inv add (make s0 ranges) vs (make_nonempty s0 ranges) (make_total s0 ranges)
  simpa [make] using this

/-- exported upper bounds = declared boundaries plus +Inf, when the first boundary is > 0 -/
theorem exported_bounds_eq_declared_plus_inf_partial (decl : List FV) (rs : List Range)
    (h : rangesOfDecl decl = some rs) (hpos : ∀ b0 rest, decl = b0 :: rest → gt b0 zero = true) :
    rs.map (·.max) = decl ++ [pinf] := by
  obtain ⟨b0, rest, rfl, hmax⟩ := rangesOfDecl_maxes decl rs h
  rw [hmax, if_pos (hpos b0 rest rfl)]; rfl

/-- KNOWN FINDING (first boundary ≤ 0): the first declared boundary is not exported.
    `buckets 0, 1, 2` yields upper bounds 1, 2, +Inf. -/
theorem first_bound_nonpositive_dropped :
    (rangesOfDecl [.num 0, .num 4607182418800017408, .num 4611686018427387904]).map (fun rs => rs.map (·.max))
      = some [.num 4607182418800017408, .num 4611686018427387904, pinf] := by decide

/-- non-vacuity: `buckets 1, 2` observed with 0.5, NaN and 3 -/
example :
    ((fresh (0 : Nat) [.num 4607182418800017408, .num 4611686018427387904]).map
      (fun d => (observeAll (fun s _ => s + 1) d [.num 4602678819172646912, .nan, .num 4613937818241073152]).buckets.map (·.2)))
      = some [1, 0, 2] := by decide

/-- Obligation over regenerated facts: an observation that reaches the VM as text is read by the
    library's 64-bit float parser (the eleventh conversion of vm.go, in `sset` on a histogram) — a
    zero-padded decimal is the decimal it spells -/
theorem text_observation_shape :
    Generated.VM.libraryConversions =
      ["strconv.ParseInt(n, 10, 64)", "strconv.ParseFloat(n, 64)", "strconv.FormatFloat(n, 'G', -1, 64)",
       "strconv.Itoa(n)", "strconv.FormatInt(n, 10)", "strconv.FormatBool(n)", "strconv.ParseFloat(rxS, 64)",
       "strconv.ParseFloat(rxS, 64)", "strconv.ParseFloat(lxS, 64)", "strconv.ParseInt(lxS, 10, 32)",
       "strconv.ParseFloat(value, 64)", "strconv.ParseInt(str, base, 64)", "strconv.ParseFloat(str, 64)"] := rfl

/-! ### regenerated control skeletons (written by lib/wire_skeletons.py) -/
/-- Obligations over regenerated facts: the functions this property's model stands for have the
    control skeleton the model was written against (`Proofs/Skeletons.lean`, one `rfl` per function
    or clause; DESIGN.md §11.6a) -/
theorem datum_skeletons : Skeletons.DatumShape := Skeletons.datum_shape
theorem exec_skeletons : Skeletons.ExecShape := Skeletons.exec_shape
theorem codegenBefore_skeletons : Skeletons.CodegenBeforeShape := Skeletons.codegenBefore_shape
theorem codegenAfter_skeletons : Skeletons.CodegenAfterShape := Skeletons.codegenAfter_shape
theorem f_codegen_codegen_skeletons : Skeletons.F_codegen_codegenShape := Skeletons.f_codegen_codegen_shape
theorem f_exporter_prometheus_skeletons : Skeletons.F_exporter_prometheusShape := Skeletons.f_exporter_prometheus_shape
theorem f_datum_buckets_skeletons : Skeletons.F_datum_bucketsShape := Skeletons.f_datum_buckets_shape

end MtailVerif.C21
