import MtailVerif.Proofs.Runtime
import MtailVerif.Generated.Runtime
import MtailVerif.Proofs.Skeletons
/-! # C14 — Program reload preserves state and never duplicates series -/
namespace MtailVerif.C14
open MtailVerif MtailVerif.Runtime

/-- Obligations over regenerated facts: `Store.Add` copies the pending expiry into the new label
    value, recognises a re-declared metric by (program, type, source) and then compares keys and bucket
    boundaries (either difference discards the old data), and
    `CompileAndRun` short-circuits on an unchanged content hash. -/
theorem add_source_shape :
    Generated.Runtime.addCopiesExpiry = true ∧
    Generated.Runtime.addSkipConds = ["v.Program != m.Program", "v.Type != m.Type", "v.Source != m.Source"] ∧
    Generated.Runtime.addBreakCond = "len(v.Keys) != len(m.Keys) || !reflect.DeepEqual(v.Keys, m.Keys) ;; !reflect.DeepEqual(v.Buckets, m.Buckets)" ∧
    Generated.Runtime.addKindCond = "m.Kind != t" ∧
    Generated.Runtime.hashShortCircuit = "ok && bytes.Equal(vh.contentHash, contentHash)" := ⟨rfl, rfl, rfl, rfl, rfl⟩

/-- reloading identical source changes nothing -/
theorem reload_identical_noop (cfg : Cfg) (r : RT) (name : Bytes) (v : Version) (h : Handle)
    (hh : r.handles.find? (·.1 = name) = some (name, h)) (heq : h.hash = v.hash) :
    compileAndRun cfg r name v = r := by
  have : decision cfg r name v = .unchanged := by simp [decision, sameHash, hh, heq]
  simp [compileAndRun, this]

/-- a load that fails to compile leaves the store and the running programs exactly as they were -/
theorem failed_compile_leaves_export (cfg : Cfg) (r : RT) (name : Bytes) (v : Version) (hc : v.compiles = false) :
    (compileAndRun cfg r name v).store = r.store ∧ (compileAndRun cfg r name v).handles = r.handles := by
  unfold compileAndRun
  have : decision cfg r name v = .unchanged ∨ decision cfg r name v = .compileError := by
    unfold decision; split
    · exact Or.inl rfl
    · right; simp [hc]
  rcases this with h | h <;> simp [h]

/-- a load refused by the store keeps the previous version running (only the store may have
    gained the metrics registered before the refusal — the recorded finding) -/
theorem refused_load_keeps_previous (cfg : Cfg) (r : RT) (name : Bytes) (v : Version) (ps : Store)
    (h : decision cfg r name v = .refused ps) : (compileAndRun cfg r name v).handles = r.handles :=
  handles_of_not_loaded cfg r name v fun s' => by simp [h]

/-- a reload that keeps a declaration (same program, type, source, keys, bucket boundaries, kind) keeps that
    metric's accumulated values — and, the expiry being copied, its pending expiry: the new
    metric object replaces the old one and holds exactly the old label values -/
theorem reload_keeps_declaration_keeps_data (s : Store) (m v : SMetric)
    (hs : s.get m.name = [v]) (hfresh : m.lvs = [])
    (hp : v.prog = m.prog) (ht : v.typ = m.typ) (hsrc : v.source = m.source) (hk : v.keys = m.keys)
    (hb : v.buckets = m.buckets) (hkind : v.kind = m.kind) (hnd : (v.lvs.map (·.labels)).Nodup) :
    s.add true m = .ok (s.set m.name [{ m with lvs := v.lvs }]) := by
  refine add_replaces hs hkind ?_
  simp only [addScan, hp, ht, hsrc, hk, hb, ne_eq, not_true_eq_false, or_self, if_false]
  rw [foldl_copyOne true m v.lvs hnd (by simp [hfresh]), funext copied_true]
  simp [hfresh]

/-- the only refusal: a metric of that name exists with another kind -/
theorem refused_iff_kind_conflict (ce : Bool) (s : Store) (m : SMetric) :
    (∃ e, s.add ce m = .error e) ↔ ∃ first rest, s.get m.name = first :: rest ∧ m.kind ≠ first.kind :=
  add_error_iff ce s m

/-- KNOWN FINDING (declaration moved): the same metric declared at another source position is
    not recognised; the stale and the new metric both stay in the store, so the next scrape sees
    two series with one name and label set -/
theorem moved_declaration_duplicates :
    let old : SMetric := { name := [99], prog := [97], kind := 1, typ := 0, keys := [[107]], source := [49], lvs := [⟨[[120]], 1, 0⟩] }
    let new : SMetric := { old with source := [50], lvs := [] }
    (Store.add true [([99], [old])] new).toOption.map (fun s => (s.get [99]).length) = some 2 := by
  decide

/-- KNOWN FINDING (partial registration): when the k-th metric of a new version is refused, the
    metrics before it are already in the store -/
theorem partial_registration_counterexample :
    let other : SMetric := { name := [99], prog := [98], kind := 1, typ := 0, keys := [], source := [49] }
    let ok : SMetric := { name := [111], prog := [97], kind := 1, typ := 0, keys := [], source := [49] }
    let clash : SMetric := { name := [99], prog := [97], kind := 2, typ := 0, keys := [], source := [50] }
    (registerAll true [([99], [other])] [ok, clash]).toOption = none ∧
    (registerPartial true [([99], [other])] [ok, clash]).length = 2 := by
  decide

/-- a reload that changes a histogram's bucket boundaries (everything else as before) starts the
    histogram afresh: the counts under the old boundaries are not carried into the new metric, and
    the old metric is gone from the store -/
theorem reload_with_other_buckets_starts_afresh (ce : Bool) (s : Store) (m v : SMetric)
    (hs : s.get m.name = [v]) (hp : v.prog = m.prog) (ht : v.typ = m.typ) (hsrc : v.source = m.source)
    (hb : v.buckets ≠ m.buckets) (hkind : v.kind = m.kind) :
    s.add ce m = .ok (s.set m.name [m]) :=
  add_replaces hs hkind (by
    simp only [addScan, hp, ht, hsrc, ne_eq, not_true_eq_false, if_false, hb, not_false_eq_true, or_true, if_true])

/-! ### regenerated control skeletons (written by lib/wire_skeletons.py) -/
/-- Obligations over regenerated facts: the functions this property's model stands for have the
    control skeleton the model was written against (`Proofs/Skeletons.lean`, one `rfl` per function
    or clause; DESIGN.md §11.6a) -/
theorem loader_skeletons : Skeletons.LoaderShape := Skeletons.loader_shape
theorem f_runtime_runtime_skeletons : Skeletons.F_runtime_runtimeShape := Skeletons.f_runtime_runtime_shape
theorem f_metrics_store_skeletons : Skeletons.F_metrics_storeShape := Skeletons.f_metrics_store_shape
theorem f_exporter_prometheus_skeletons : Skeletons.F_exporter_prometheusShape := Skeletons.f_exporter_prometheus_shape

end MtailVerif.C14
