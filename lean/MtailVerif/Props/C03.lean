import MtailVerif.Proofs.Lexer
import MtailVerif.Proofs.CompilePipeline
import MtailVerif.Generated.Grammar
import MtailVerif.Generated.Compile
import MtailVerif.Proofs.Skeletons
/-! C03 — the compiler terminates on any source text and never crashes.

What a theorem can carry here:
* the lexer (Model/Lexer.lean, every state function of lexer.go): every request for a token
  returns (`nextToken` is a total function, defined by well-founded recursion on the remaining
  input — Lean checked the termination argument), it consumes input, it stops only with EOF, and
  whatever the parser does with the InRegex flag — within the one place parser.y sets it — the
  token stream reaches EOF within 2·n+1 requests for an input of n runes;
* the result plumbing of Compile (Model/CompilePipeline.lean): exactly one of code and error, and an
  error lists at least one message, for arbitrary behaviour of the stages.
The parser tables goyacc generates, the type checker and the code generator are not modelled for
this property; for them the property is decided by search on the real compiler (the harness
predicate: no panic, returns within the bound, exactly one result, deterministic). -/
namespace MtailVerif.C03
open MtailVerif MtailVerif.Lexer MtailVerif.CompilePipeline

/-- Outside a regular expression a request consumes at least one rune of a non-empty input. -/
theorem request_consumes (inp : List R) (c : C) :
    (nextToken inp c false).1.2.1.length ≤ inp.length - 1 :=
  (nextToken_step inp c).le

/-- Inside a regular expression a request never gives input back. -/
theorem regex_request_consumes (inp : List R) (c : C) :
    (nextToken inp c true).1.2.1.length ≤ inp.length :=
  nextToken_regex inp c ▸ lexRegex_le inp c

/-- The state machine stops (returns the nil state) only when it has emitted EOF … -/
theorem stops_only_with_eof (inp : List R) (c : C) (f : Bool) (h : (nextToken inp c f).2 = true) :
    (nextToken inp c f).1.1.kind = .EOF := by
  cases f
  · exact (nextToken_step inp c).eof h
  · rw [nextToken_regex] at h; cases h

/-- … and at the end of the input it does stop. -/
theorem stops_at_end_of_input (c : C) : (nextToken [] c false).2 = true := nextToken_nil_stops c

/-- **The token stream ends.**  Let the parser be any function from the tokens delivered so far
    to the InRegex flag of the next request, subject only to parser.y's discipline (InRegex is
    set right after a DIV token).  Then for an input of n runes the lexer emits EOF and stops
    within 2·n+1 requests. -/
theorem token_stream_ends (pol : List Tok → Bool) (hp : RegexAfterDivOnly pol) (inp : List R) (c : C) :
    (drive pol (2 * inp.length + 1) [] inp c).2 = true ∧
    ∃ t rest, (drive pol (2 * inp.length + 1) [] inp c).1 = t :: rest ∧ t.kind = .EOF :=
  drive_stops pol hp _ [] inp c (phi_nil inp ▸ Nat.lt_succ_self _)

/-- Compile returns exactly one of code and error, whatever the stages do … -/
theorem compile_returns_exactly_one {S A O : Type} (st : Stages S A O) (optimisation : Bool) (src : S) :
    ExactlyOne (compile st optimisation src) :=
  compile_ind st optimisation src (fun _ _ => .inr ⟨rfl, rfl⟩) fun _ => codegenRet_exactlyOne

/-- … and its error lists at least one message, provided the generated parser reports an error
    whenever it gives up (goyacc calls Error before it returns 1). -/
theorem compile_error_not_empty {S A O : Type} (st : Stages S A O) (optimisation : Bool) (src : S)
    (hy : (st.parse src).1 ≠ 0 → (st.parse src).2.1 ≠ []) :
    ErrNonEmpty (compile st optimisation src) := by
  refine compile_ind st optimisation src (fun e he l hl => ?_) fun _ => codegenRet_errNonEmpty
  cases hl
  rcases he with h | ⟨rfl, h⟩
  · exact h
  · exact hy h

/-! ### the models are the source's -/

open Generated.Lexer in
/-- One invocation of a state function sends at most one token, so the two-slot token channel
    never blocks its only goroutine; the builtin list is sorted, so the binary search of
    lexIdentifier finds every builtin (the model tests membership). -/
theorem lexer_source_shape :
    tokenChannelCapacity = "2" ∧
    maxTokensPerInvocation = [("lexProg", 1), ("lexComment", 0), ("lexNumeric", 1), ("lexDuration", 1),
      ("lexQuotedString", 1), ("lexCapref", 1), ("lexIdentifier", 1), ("lexRegex", 1), ("lexDecorator", 1)] ∧
    builtinsSorted = true ∧ keywords.length = 18 ∧ builtins.length = 12 :=
  ⟨rfl, rfl, rfl, rfl, rfl⟩

open Generated.Grammar in
/-- InRegex is set in one place: the empty rule `in_regex`, used once, right after DIV. -/
theorem in_regex_discipline :
    inRegexUses = [("regex_pattern", ["mark_pos", "DIV", "in_regex", "REGEX", "DIV"])] ∧
    inRegexRule = [[]] ∧ inRegexCalls = 1 :=
  ⟨rfl, rfl, rfl⟩

open Generated.Compile in
theorem compile_source_shape :
    compileResults = "obj *code.Object, err error" ∧
    compileSteps = [("", "ast,err", "parser.Parse", true),
      ("!c.disableOptimisation", "ast,err", "opt.Optimise", true),
      ("", "ast,err", "checker.Check", true),
      ("!c.disableOptimisation", "ast,err", "opt.Optimise", true),
      ("", "obj,err", "codegen.CodeGen", true)] ∧
    parseReturns = [("r != 0 || p.errors != nil", ["nil", "p.errors"]), ("", ["p.root", "nil"])] ∧
    optimiseReturns = [("len(o.errors) > 0", ["r", "o.errors"]), ("", ["r", "nil"])] ∧
    checkReturns = [("len(c.errors) > 0", ["node", "c.errors"]), ("", ["node", "nil"])] ∧
    codegenReturns = [("len(c.errors) > 0", ["nil", "c.errors"]), ("", ["&c.obj", "nil"])] :=
  ⟨rfl, rfl, rfl, rfl, rfl, rfl⟩

/-! ### non-vacuity -/

/-- a parser policy that sets InRegex after every DIV meets the discipline -/
example : RegexAfterDivOnly headIsDiv := fun _ h => h

def rs (s : String) : List R :=
  s.toList.map fun ch => ⟨ch.toNat, 1, if ch.isAlpha then 1 else if ch.isDigit then 2 else if ch.isWhitespace then 3 else 0⟩

/-! Tests by evaluation (`nextToken` is defined by well-founded recursion, which the kernel does not
    unfold, so these are `#guard`s, not theorems): `c++ # x` lexes to ID, INC, EOF; an unterminated
    regular expression gives DIV, then (in regex mode) INVALID, then EOF. -/
#guard ((drive (fun _ => false) 9 [] (rs "c++ # x") {}).1.map (·.kind)) == [.EOF, .INC, .ID]
#guard ((drive headIsDiv 9 [] (rs "/ab") {}).1.map (fun t => (t.kind, t.err))) == [(.EOF, 0), (.INVALID, 3), (.DIV, 0)]

/-! ### regenerated control skeletons (written by lib/wire_skeletons.py) -/
/-- Obligations over regenerated facts: the functions this property's model stands for have the
    control skeleton the model was written against (`Proofs/Skeletons.lean`, one `rfl` per function
    or clause; DESIGN.md §11.6a) -/
theorem symbols_skeletons : Skeletons.SymbolsShape := Skeletons.symbols_shape
theorem lex_skeletons : Skeletons.LexShape := Skeletons.lex_shape
theorem codegenBefore_skeletons : Skeletons.CodegenBeforeShape := Skeletons.codegenBefore_shape
theorem codegenAfter_skeletons : Skeletons.CodegenAfterShape := Skeletons.codegenAfter_shape
theorem checkerBefore_skeletons : Skeletons.CheckerBeforeShape := Skeletons.checkerBefore_shape
theorem checkerAfter_skeletons : Skeletons.CheckerAfterShape := Skeletons.checkerAfter_shape
theorem patternEval_skeletons : Skeletons.PatternEvalShape := Skeletons.patternEval_shape
theorem f_checker_checker_skeletons : Skeletons.F_checker_checkerShape := Skeletons.f_checker_checker_shape
theorem f_codegen_codegen_skeletons : Skeletons.F_codegen_codegenShape := Skeletons.f_codegen_codegen_shape
theorem f_parser_driver_skeletons : Skeletons.F_parser_driverShape := Skeletons.f_parser_driver_shape
theorem f_ast_ast_skeletons : Skeletons.F_ast_astShape := Skeletons.f_ast_ast_shape
theorem f_ast_walk_skeletons : Skeletons.F_ast_walkShape := Skeletons.f_ast_walk_shape
theorem f_position_position_skeletons : Skeletons.F_position_positionShape := Skeletons.f_position_position_shape

end MtailVerif.C03
