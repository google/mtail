import MtailVerif.Proofs.VMRun
import MtailVerif.Generated.VM
import MtailVerif.Proofs.Skeletons
/-! # C04 — accepted programs never fault inside the VM

    `VM.step` (Model/VM.lean) mirrors `vm.go` opcode by opcode, with every condition under which
    the Go code panics or reports an "unexpected type" modelled as `Res.fault`.
    `Verify.checkCert` (Model/VMVerify.lean) is a bytecode verifier.  The theorems below say: a
    program the verifier accepts never faults, on any line, from any well-typed store, whatever
    the standard library answers; the only runtime errors are the checked ones; it stops within
    `code.length` instructions; and the store stays well typed, so the statement chains over any
    sequence of lines.  The check runs the verifier on the real compiler's output for every
    program it compiles (translation validation). -/
namespace MtailVerif.C04
open MtailVerif MtailVerif.VM MtailVerif.VM.Verify

/-- the runtime errors `vm.go` raises through explicit checks -/
def checked : List RtErr :=
  [.convFailed, .timeParseFailed, .divByZero, .shiftOutOfRange, .baseOutOfRange, .captureOfUnmatched,
   .expireMissingDatum]

/-- **no fault on any line**: for every verified program, every oracle (library behaviour),
    every input line, every well-typed store and memo, and every fuel -/
theorem verified_line_never_faults (p : Prog) (c : Cert) (hc : checkCert p c = true) (o : Oracle)
    (inp : Input) (st : MStore) (memo : Memo) (fuel : Nat) (hs : StoreOK p st []) :
    (∀ f, (runLine o p fuel inp st memo).out ≠ .fault f) ∧
    (∀ e, (runLine o p fuel inp st memo).out = .err e → e ∈ checked) ∧
    StoreOK p (runLine o p fuel inp st memo).store [] ∧
    (p.code.length < fuel → (runLine o p fuel inp st memo).out ≠ .fuel) := by
  obtain ⟨g, gf⟩ := run_sound o p inp c hc fuel {} st memo (inv_init hc hs)
  refine ⟨g.noFault, ?_, g.store, fun h => gf (by simpa using h)⟩
  intro e he
  have hne : e ≠ .arity := fun h => g.checkedOnly (h ▸ he)
  cases e <;> first | decide | exact absurd rfl hne

/-- a whole history of lines (the store and memo each line leaves are the next line's) -/
def runLines (o : Nat → Oracle) (p : Prog) (fuel : Nat) : Nat → List Input → MStore → Memo → List LineResult
  | _, [], _, _ => []
  | k, inp :: rest, st, memo =>
    let r := runLine (o k) p fuel inp st memo
    r :: runLines o p fuel (k + 1) rest r.store r.memo

/-- **no fault in any history**: the library may even answer differently on every line -/
theorem verified_history_never_faults (p : Prog) (c : Cert) (hc : checkCert p c = true) (o : Nat → Oracle)
    (fuel : Nat) (hfuel : p.code.length < fuel) :
    ∀ (inps : List Input) (k : Nat) (st : MStore) (memo : Memo), StoreOK p st [] →
      ∀ r ∈ runLines o p fuel k inps st memo,
        (∀ f, r.out ≠ .fault f) ∧ (∀ e, r.out = .err e → e ∈ checked) ∧ r.out ≠ .fuel := by
  intro inps
  induction inps with
  | nil => intro k st memo _ r hr; simp [runLines] at hr
  | cons inp rest ih =>
    intro k st memo hs r hr
    simp only [runLines, List.mem_cons] at hr
    obtain ⟨h1, h2, h3, h4⟩ := verified_line_never_faults p c hc (o k) inp st memo fuel hs
    rcases hr with rfl | hr
    · exact ⟨h1, h2, h4 hfuel⟩
    · exact ih (k + 1) _ _ h3 r hr

/-- the inference pass only ever returns certificates that pass the verified check -/
theorem verifyProg_checked (p : Prog) (c : Cert) (h : verifyProg p = .ok c) : checkCert p c = true := by
  unfold verifyProg at h
  simp only at h
  split at h
  · cases h
  · split at h
    · next hck => cases h; exact hck
    · cases h

/-- regenerated facts: the representations each typed pop of vm.go accepts are the ones the model's
    `popInt`/`popFloat`/`popString` accept (`time.Time` never reaches the stack), `Settime` pops
    with `PopInt`, and the opcode enumeration is the one the driver decodes -/
theorem source_shape :
    Generated.VM.casesPopInt = ["int64", "int", "float64", "bool", "string", "time.Time", "datum.Datum"] ∧
    Generated.VM.casesPopFloat = ["float64", "int", "int64", "bool", "string", "datum.Datum"] ∧
    Generated.VM.casesPopString = ["string", "float64", "int", "int64", "bool", "datum.Datum"] ∧
    Generated.VM.settimeAccepts = "PopInt;" ∧
    Generated.VM.opcodeNames.length = 61 ∧
    -- the conversions between text and numbers that the model takes from an oracle are the
    -- library calls of vm.go, with these arguments (decimal integers, 64-bit floats)
    Generated.VM.libraryConversions =
      ["strconv.ParseInt(n, 10, 64)", "strconv.ParseFloat(n, 64)", "strconv.FormatFloat(n, 'G', -1, 64)",
       "strconv.Itoa(n)", "strconv.FormatInt(n, 10)", "strconv.FormatBool(n)", "strconv.ParseFloat(rxS, 64)",
       "strconv.ParseFloat(rxS, 64)", "strconv.ParseFloat(lxS, 64)", "strconv.ParseInt(lxS, 10, 32)",
       "strconv.ParseFloat(value, 64)", "strconv.ParseInt(str, base, 64)", "strconv.ParseFloat(str, 64)"] := ⟨rfl, rfl, rfl, rfl, rfl, rfl⟩

/-! ### non-vacuity: a concrete compiled program is accepted, and the hypotheses are satisfiable -/

/-- bytecode of `counter c` / `/x/ { c++ }` as the Go compiler emits it -/
def exProg : Prog where
  code := [⟨.match, .int 0⟩, ⟨.jnm, .int 7⟩, ⟨.setmatched, .bool false⟩, ⟨.mload, .int 0⟩, ⟨.dload, .int 0⟩,
           ⟨.inc, .none⟩, ⟨.setmatched, .bool true⟩]
  strs := []
  nre := 1
  metrics := [⟨0, 0, []⟩]

example : (verifyProg exProg).isOk = true := by decide

/-- the store the compiler leaves for `exProg` (the counter initialised to 0) is well typed -/
def exStore : MStore := [{ nkeys := 0, lvs := [⟨0, [], ⟨.int 0, some 0⟩, 0⟩], index := [([], 0)], next := 1 }]

example : StoreOK exProg exStore [] :=
  ⟨rfl, fun | 0, _, _, rfl, rfl => rfl, fun | 0, _, rfl, _, .head _ => ⟨_, rfl, rfl⟩, nofun⟩

/-- ill-typed bytecode is rejected: `iget` on a float metric's datum -/
example : (verifyProg { exProg with code := [⟨.mload, .int 0⟩, ⟨.dload, .int 0⟩, ⟨.fget, .none⟩] }).isOk = false := by
  decide

/-! ### regenerated control skeletons (written by lib/wire_skeletons.py) -/
/-- Obligations over regenerated facts: the functions this property's model stands for have the
    control skeleton the model was written against (`Proofs/Skeletons.lean`, one `rfl` per function
    or clause; DESIGN.md §11.6a) -/
theorem exec_skeletons : Skeletons.ExecShape := Skeletons.exec_shape
theorem compare_skeletons : Skeletons.CompareShape := Skeletons.compare_shape
theorem codegenBefore_skeletons : Skeletons.CodegenBeforeShape := Skeletons.codegenBefore_shape
theorem codegenAfter_skeletons : Skeletons.CodegenAfterShape := Skeletons.codegenAfter_shape
theorem checkerBefore_skeletons : Skeletons.CheckerBeforeShape := Skeletons.checkerBefore_shape
theorem checkerAfter_skeletons : Skeletons.CheckerAfterShape := Skeletons.checkerAfter_shape
theorem f_codegen_codegen_skeletons : Skeletons.F_codegen_codegenShape := Skeletons.f_codegen_codegen_shape
theorem f_vm_vm_skeletons : Skeletons.F_vm_vmShape := Skeletons.f_vm_vm_shape

end MtailVerif.C04
