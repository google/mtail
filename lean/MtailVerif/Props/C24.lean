import MtailVerif.Proofs.ScopeNext
import MtailVerif.Proofs.ScopeRegex
import MtailVerif.Proofs.ScopeUndecl
import MtailVerif.Proofs.ScopeUnused
import MtailVerif.Proofs.Skeletons
/-! # C24 — invalid programs are rejected with a positioned error

    `Scope.check` (Model/Scope.lean) mirrors the checker's symbol handling; regular-expression
    syntax is an oracle.  Proved here: the checker never takes an error back, whatever it visits
    afterwards (`errors_never_retracted`), so one report suffices for rejection; a `next` that is not
    inside a decorator definition is reported for every program and every position it can stand at
    (`next_outside_decorator_rejected`, a statement over all ASTs); so is a pattern written with
    literals whose text is over the length limit or does not parse, wherever in the program it
    stands (`bad_literal_regex_rejected`, also over all ASTs, decorator definitions included); so is
    a name that no declaration of the program introduces, used as an identifier or as a decorator
    (`undeclared_name_rejected`: an invariant of the checker's whole state says nothing can resolve
    the name, whatever was declared, captured by `next` or instantiated before); so is a name that
    two statements of one block declare (`redeclared_name_rejected`: every visit leaves the scope
    stack as it found it, so the first declaration is still there when the second arrives); so is a
    metric, constant or decorator that a block declares and nothing in the program refers to
    (`unused_declaration_rejected`: the symbol stays unmarked and in its block's scope until the
    block is swept); and each of the other defect classes is reported by its clause whenever the
    walk reaches the offending node (`*_reported`: the lookup fails / the name is taken / the pattern
    is too long or does not parse / a declaration leaves its scope unused), each with the offending
    node's or declaration's own position.  The tie runs the model on the real parser's AST against
    the real checker, class and position of every scoping error compared, on valid programs and on
    mutants of every class. -/
namespace MtailVerif.C24
open MtailVerif MtailVerif.Ast MtailVerif.Scope

/-- whatever the checker visits, errors already reported stay reported -/
theorem errors_never_retracted (cfg : Cfg) (n : Node) (s : St) : ∃ more, (walk cfg n s).errors = s.errors ++ more :=
  walk_ext cfg n s

/-- one report suffices for rejection -/
theorem rejected {cfg : Cfg} {prog : Node} (h : ({} : St).errors.length < (walk cfg prog {}).errors.length) :
    check cfg prog ≠ [] := fun he => by
  rw [check] at he
  rw [he] at h
  exact Nat.lt_irrefl 0 h

/-- **`next` outside a decorator**: for every program and every place the statement can stand —
    nested blocks, conditions' else branches, decorated blocks, after other errors — the program is
    rejected -/
theorem next_outside_decorator_rejected (cfg : Cfg) (prog : Node) (h : hasNextOutside prog = true) :
    check cfg prog ≠ [] :=
  rejected (next_fires cfg prog h {} rfl rfl)

/-- **regular expression over the length limit or not parseable**: for every program and every
    place a pattern expression can stand — conditions, `=~` operands, constant definitions, builtin
    arguments, decorator definitions and decorated blocks, nested to any depth, after any other
    errors — a pattern written with literals (one literal or a concatenation of them) whose text is
    longer than the limit, or that the regular-expression library refuses, makes the checker reject
    the program.  (`cfg.groups` is the library's verdict, an oracle; the limit is a parameter.) -/
theorem bad_literal_regex_rejected (cfg : Cfg) (prog : Node) (h : hasBadRegex cfg prog = true) :
    check cfg prog ≠ [] :=
  rejected (badRegex_fires cfg prog h {} rfl)

/-- **undeclared metric / undefined decorator**: a name that no `counter`/`gauge`/… declaration,
    no `const` and no `def` anywhere in the program introduces, used as an identifier in any
    expression or as a decorator on any block — in nested blocks, else branches, decorator
    definitions, decorated blocks (whose scope is a copy of what the definition saw at `next`),
    after any other errors — makes the checker reject the program. -/
theorem undeclared_name_rejected (cfg : Cfg) (prog : Node) (name : String)
    (hd : declares name prog = false) (hm : mentions name prog = true) : check cfg prog ≠ [] :=
  rejected (undecl_fires cfg name prog hd hm {} rfl (inv_init name))

/-- **redeclared name**: two statements of one block — metric declarations, `const`s, `def`s, in
    any combination — that declare the same name make the checker reject the program, whatever
    stands between them and wherever the block is (top level, a condition's block or its else
    branch, a decorator definition, a decorated block). -/
theorem redeclared_name_rejected (cfg : Cfg) (prog : Node) (h : hasDup prog = true) : check cfg prog ≠ [] :=
  rejected (dup_fires cfg prog h {} rfl)

/-- **unused declaration**: a metric, a pattern constant or a decorator that some block of the
    program declares — at top level, in a condition's block or else branch, in a decorator
    definition, in a decorated block — and that no identifier and no decorator use anywhere in the
    program names, makes the checker reject the program. -/
theorem unused_declaration_rejected (cfg : Cfg) (prog : Node) (x : String)
    (hd : declaresInBlock x prog = true) (hm : mentions x prog = false) : check cfg prog ≠ [] :=
  rejected (unused_fires cfg x prog hd hm {} rfl (g_init x))

/-- `next` outside a decorator definition, where the walk reaches it: the error carries the
    statement's own position -/
theorem next_outside_position (p : Pos) (s : St) (h : s.decoScopes = []) :
    (doNext p s).errors = s.errors ++ [⟨.nextOutside, some p⟩] := by
  rw [doNext_outside p h]; rfl

/-- **undeclared metric**: an identifier that names neither a metric nor a pattern constant visible
    from the current scope chain is reported at the identifier -/
theorem undeclared_identifier_reported (name : String) (p : Pos) (s : St)
    (h1 : lookup s name .var = none) (h2 : lookup s name .pattern = none) :
    (idK name p s).errors = s.errors ++ [⟨.undeclared, some p⟩] := by
  rw [idK_undeclared p h1 h2]; rfl

/-- **capture group not defined by a visible pattern** -/
theorem undefined_capref_reported (name : String) (p : Pos) (s : St) (h : lookup s name .capref = none) :
    (capK name p s).errors = s.errors ++ [⟨.undefCapref, some p⟩] := by
  rw [capK_undefined p h]; rfl

/-- **undefined decorator** -/
theorem undefined_decorator_reported (name : String) (w : Option Pos) (wb : St → St) (s : St)
    (h : lookup s name .deco = none) :
    (decoK name w wb s).errors = s.errors ++ [⟨.undefDeco, w⟩] := by
  rw [decoK_undefined w wb h]; rfl

/-- **redeclared name**: declaring a name the innermost scope already holds is reported, and the
    scope is left as it was -/
theorem redeclaration_reported (name : String) (k : Kind) (p : Option Pos) (c : Cls) (dp : Option Pos)
    (ok : Sym → St → St) (s : St) (f : Frame) (rest : List Frame) (alt : Nat)
    (hf : s.frames = f :: rest) (ht : frameGet f name = some alt) :
    (declare name k p c dp ok s).errors = s.errors ++ [⟨c, dp⟩] ∧ (declare name k p c dp ok s).frames = s.frames := by
  rw [declare_taken k p c dp ok hf ht]
  exact ⟨rfl, rfl⟩

/-- **regular expression over the length limit** -/
theorem overlong_regex_reported (cfg : Cfg) (s : St) (pat : Bytes) (p : Option Pos) (h : pat.length > cfg.maxRegexLen) :
    (checkRegex cfg s pat p).errors = s.errors ++ [⟨.regexTooLong, p⟩] := by
  rw [checkRegex_tooLong cfg s p h]; rfl

/-- **pattern constant over the length limit**: reported where it is defined, and its text is not
    kept — so constants built from constants cannot double in size from one definition to the next
    (every recorded fragment is within the limit: `recorded_fragments_bounded`) -/
theorem overlong_fragment_reported (cfg : Cfg) (sy : Sym) (e : Node) (s : St) (h1 : (evalPattern cfg.fmtFloat s e).1 ≠ [])
    (h2 : (evalPattern cfg.fmtFloat s e).1.length > cfg.maxRegexLen) :
    (recordPattern cfg sy e s).errors = s.errors ++ (evalPattern cfg.fmtFloat s e).2 ++ [⟨.regexTooLong, sy.pos⟩] ∧
      (recordPattern cfg sy e s).patterns = s.patterns := by
  rw [recordPattern_tooLong cfg sy e s h1 h2]
  exact ⟨by simp [St.err], rfl⟩

theorem recorded_fragments_bounded (cfg : Cfg) (sy : Sym) (e : Node) (s : St)
    (h : ∀ p ∈ s.patterns, p.2.length ≤ cfg.maxRegexLen) :
    ∀ p ∈ (recordPattern cfg sy e s).patterns, p.2.length ≤ cfg.maxRegexLen := by
  -- no text; text over the limit; the text is recorded
  fun_cases recordPattern cfg sy e s with
  | case1 | case2 => exact h
  | case3 r _ _ hl =>
    intro p hp
    rcases List.mem_cons.mp hp with rfl | hp
    · exact Nat.le_of_not_lt hl
    · exact h p hp

/-- **invalid regular expression** (whatever the library's syntax is) -/
theorem invalid_regex_reported (cfg : Cfg) (s : St) (pat : Bytes) (p : Option Pos)
    (hl : ¬ pat.length > cfg.maxRegexLen) (h : cfg.groups pat = none) :
    (checkRegex cfg s pat p).errors = s.errors ++ [⟨.regexInvalid, p⟩] := by
  rw [checkRegex_invalid cfg s p hl h]; rfl

/-- **unused declaration**: a metric, constant or decorator still unused when its scope is left is
    reported at its declaration -/
theorem unused_declaration_reported (s : St) (key : String) (sy : Sym) (rest : List Frame)
    (hf : s.frames = [(key, sy.id)] :: rest) (hs : s.sym sy.id = some sy) (hu : s.used.contains sy.id = false)
    (hk : sy.kind ≠ .capref) :
    (sweep s).errors = s.errors ++ [⟨.unused sy.kind, sy.pos⟩] := by
  have hu' : sy.id ∉ s.used := by simpa using hu
  rw [sweep_eq, hf]
  simp [unusedErr_unused (key, sy.id) hs hu' hk]

/-- the literal-zero divisor clause of `VisitAfter(BinaryExpr)`: after the implicit conversions the
    right operand is still the literal exactly when no conversion to another type was inserted -/
def divZeroClause (resultTy rhsTy : Ty) (op : Op) (rhs : Node) : Bool :=
  (op == .div || op == .mod) && resultTy == rhsTy &&
    (match rhs with | .int 0 _ => true | _ => false)

/-- **integer division or modulus by the literal 0** -/
theorem literal_zero_divisor_reported (op : Op) (p : Pos) (h : op = .div ∨ op = .mod) :
    divZeroClause .int .int op (.int 0 p) = true := by
  rcases h with rfl | rfl <;> rfl

/-- the clause does not fire for a float division (the literal is wrapped in a conversion) -/
example (p : Pos) : divZeroClause .float .int .div (.int 0 p) = false := rfl

/-! ### non-vacuity -/

def cfg0 : Cfg := { groups := fun _ => some [""] }
def p0 : Pos := ⟨0, 0, 3⟩

/-- `/x/ { next }` is rejected, with the position of `next` -/
example : check cfg0 (.stmts (.cons (.cond (.un .match (.patexpr (.patlit [120] p0) []) p0 .unk)
    (.stmts (.cons (.next ⟨1, 2, 5⟩) .nil)) .nil) .nil)) = [⟨.nextOutside, some ⟨1, 2, 5⟩⟩] := by decide

/-- an over-long literal in a condition deep inside a decorator definition is seen by `hasBadRegex` -/
example : hasBadRegex { cfg0 with maxRegexLen := 2 } (.stmts (.cons (.decodecl "d" (.stmts (.cons (.cond
    (.un .match (.patexpr (.patlit [120, 121, 122] p0) []) p0 .unk)
    (.stmts (.cons (.next ⟨1, 2, 5⟩) .nil)) .nil) .nil)) p0) .nil)) = true := by decide

/-- `counter a` / `/x/ { zz++ }`: `zz` is declared nowhere and mentioned, and the model reports it
    (with the unused `a`) -/
example : declares "zz" (.stmts (.cons (.decl { kind := 1, name := "a", hidden := false, exported := "", keys := [], limit := 0, buckets := [] } p0)
      (.cons (.cond (.un .match (.patexpr (.patlit [120] p0) []) p0 .unk)
        (.stmts (.cons (.un .inc (.id "zz" ⟨1, 2, 3⟩ .unk) p0 .unk) .nil)) .nil) .nil))) = false ∧
    mentions "zz" (.stmts (.cons (.decl { kind := 1, name := "a", hidden := false, exported := "", keys := [], limit := 0, buckets := [] } p0)
      (.cons (.cond (.un .match (.patexpr (.patlit [120] p0) []) p0 .unk)
        (.stmts (.cons (.un .inc (.id "zz" ⟨1, 2, 3⟩ .unk) p0 .unk) .nil)) .nil) .nil))) = true ∧
    (check cfg0 (.stmts (.cons (.decl { kind := 1, name := "a", hidden := false, exported := "", keys := [], limit := 0, buckets := [] } p0)
      (.cons (.cond (.un .match (.patexpr (.patlit [120] p0) []) p0 .unk)
        (.stmts (.cons (.un .inc (.id "zz" ⟨1, 2, 3⟩ .unk) p0 .unk) .nil)) .nil) .nil)))).map (·.cls) = [.undeclared, .unused .var] := by
  decide

/-- `counter a` / `a++` / `const a /x/`: the block declares `a` twice, across kinds -/
example : hasDup (.stmts (.cons (.decl { kind := 1, name := "a", hidden := false, exported := "", keys := [], limit := 0, buckets := [] } p0)
    (.cons (.un .inc (.id "a" p0 .unk) p0 .unk) (.cons (.const (.id "a" ⟨2, 6, 6⟩ .unk) (.patexpr (.patlit [120] p0) []) []) .nil)))) = true ∧
  (check cfg0 (.stmts (.cons (.decl { kind := 1, name := "a", hidden := false, exported := "", keys := [], limit := 0, buckets := [] } p0)
    (.cons (.un .inc (.id "a" p0 .unk) p0 .unk) (.cons (.const (.id "a" ⟨2, 6, 6⟩ .unk) (.patexpr (.patlit [120] p0) []) []) .nil))))).map (·.cls) = [.redeclConst] := by
  decide

/-- `/x/ { counter inner }`: declared in a nested block, referred to nowhere -/
example : declaresInBlock "inner" (.stmts (.cons (.cond (.un .match (.patexpr (.patlit [120] p0) []) p0 .unk)
      (.stmts (.cons (.decl { kind := 1, name := "inner", hidden := false, exported := "", keys := [], limit := 0, buckets := [] } ⟨1, 2, 14⟩) .nil)) .nil) .nil)) = true ∧
    mentions "inner" (.stmts (.cons (.cond (.un .match (.patexpr (.patlit [120] p0) []) p0 .unk)
      (.stmts (.cons (.decl { kind := 1, name := "inner", hidden := false, exported := "", keys := [], limit := 0, buckets := [] } ⟨1, 2, 14⟩) .nil)) .nil) .nil)) = false ∧
    check cfg0 (.stmts (.cons (.cond (.un .match (.patexpr (.patlit [120] p0) []) p0 .unk)
      (.stmts (.cons (.decl { kind := 1, name := "inner", hidden := false, exported := "", keys := [], limit := 0, buckets := [] } ⟨1, 2, 14⟩) .nil)) .nil) .nil)) =
      [⟨.unused .var, some ⟨1, 2, 14⟩⟩] := by
  decide

/-- the same `next` inside a decorator definition is fine, and the decorated block sees `$0` -/
example : check cfg0 (.stmts (.cons (.decodecl "d" (.stmts (.cons (.cond (.un .match (.patexpr (.patlit [120] p0) []) p0 .unk)
    (.stmts (.cons (.next ⟨1, 2, 5⟩) .nil)) .nil) .nil)) p0)
    (.cons (.deco "d" (.stmts (.cons (.cap "0" false p0 .unk) .nil)) p0) .nil))) = [] := by decide

/-! ### regenerated control skeletons (written by lib/wire_skeletons.py) -/
/-- Obligations over regenerated facts: the functions this property's model stands for have the
    control skeleton the model was written against (`Proofs/Skeletons.lean`, one `rfl` per function
    or clause; DESIGN.md §11.6a) -/
theorem symbols_skeletons : Skeletons.SymbolsShape := Skeletons.symbols_shape
theorem checkerBefore_skeletons : Skeletons.CheckerBeforeShape := Skeletons.checkerBefore_shape
theorem checkerAfter_skeletons : Skeletons.CheckerAfterShape := Skeletons.checkerAfter_shape
theorem patternEval_skeletons : Skeletons.PatternEvalShape := Skeletons.patternEval_shape
theorem optBefore_skeletons : Skeletons.OptBeforeShape := Skeletons.optBefore_shape
theorem optAfter_skeletons : Skeletons.OptAfterShape := Skeletons.optAfter_shape
theorem f_checker_checker_skeletons : Skeletons.F_checker_checkerShape := Skeletons.f_checker_checker_shape
theorem f_runtime_runtime_skeletons : Skeletons.F_runtime_runtimeShape := Skeletons.f_runtime_runtime_shape
theorem f_symbol_symtab_skeletons : Skeletons.F_symbol_symtabShape := Skeletons.f_symbol_symtab_shape
theorem f_ast_ast_skeletons : Skeletons.F_ast_astShape := Skeletons.f_ast_ast_shape
theorem f_ast_walk_skeletons : Skeletons.F_ast_walkShape := Skeletons.f_ast_walk_shape
theorem f_position_position_skeletons : Skeletons.F_position_positionShape := Skeletons.f_position_position_shape

end MtailVerif.C24
