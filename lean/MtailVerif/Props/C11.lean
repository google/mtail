import MtailVerif.Proofs.Lockset
import MtailVerif.Proofs.Skeletons
/-! # C11 — concurrent processing, export, reload and GC are race-free

    Partial by nature.  What is proved: for the access table regenerated from the Go source (every
    read and write of shared metric state reachable from each goroutine root, with the locks
    syntactically held), no two goroutines can be inside conflicting accesses at the same time under
    sync.RWMutex semantics, in any schedule; and atomic read-modify-write increments are never lost.
    What is only explored: Go's real memory model and scheduler (the race detector runs on a
    concurrent workload), and the faithfulness of the syntactic lock tracking. -/
namespace MtailVerif.C11
open MtailVerif.Lockset

/-- the regenerated table satisfies the lockset discipline: every pair of conflicting accesses that
    two goroutines could perform holds a common lock, exclusively on at least one side -/
theorem table_conflict_free : conflictFree table = true :=
  -- location by location: a sweep over all 61 × 61 pairs costs four times as much
  conflictFree_of_locs table Generated.Access.locNames.length (by decide) (by decide)

/-- **no data race in any schedule** of goroutines entering and leaving the table's accesses -/
theorem no_race_in_any_schedule (n : Nat) (xs : List Act) (s : St)
    (h : run (List.replicate n none) xs = some s)
    (i j : Nat) (a b : Acc) (hij : i ≠ j) (hi : s[i]? = some (some a)) (hj : s[j]? = some (some b))
    (ha : a ∈ table) (hb : b ∈ table) (hc : concurrent a b = true) : racePair a b = false :=
  no_race_of_conflictFree table_conflict_free h hij hi hj ha hb hc

/-- every access to a datum's value word or timestamp is a sync/atomic operation -/
theorem datum_words_atomic :
    (table.filter fun a => a.loc == 4 || a.loc == 5 || a.loc == 7).all (fun a => a.kind == .a) = true ∧
    Generated.Access.locNames[4]? = some "Int.Value" ∧ Generated.Access.locNames[5]? = some "Float.Value" ∧
    Generated.Access.locNames[7]? = some "Datum.Time" := ⟨by decide, rfl, rfl, rfl⟩

/-- the thread roots the table covers -/
theorem roots_covered :
    ((List.range 8).all fun r => table.any (·.root == r)) = true ∧
    Generated.Access.rootNames = ["vm", "gc", "prom", "varz", "graphite", "push", "json", "reload"] :=
  ⟨by decide, rfl⟩

/-- an atomic add is one indivisible step: whatever order the scheduler picks, the counter ends at
    the initial value plus every delta -/
theorem atomic_increments_not_lost (init : Int) (deltas order : List Int) (h : order.Perm deltas) :
    order.foldl (· + ·) init = init + deltas.sum := by
  -- additions commute, so the order does not matter
  rw [h.foldl_eq' (fun x _ y _ z => Int.add_right_comm z x y)]
  clear h
  induction deltas generalizing init with
  | nil => simp
  | cons a l ih => rw [List.foldl_cons, ih, List.sum_cons, Int.add_assoc]

/-- a load followed by a store is two steps, and this interleaving of two increments loses one -/
def lostUpdate : Int :=
  let v1 := (0 : Int)         -- goroutine 1 loads
  let v2 := (0 : Int)         -- goroutine 2 loads
  let _c := v1 + 1            -- goroutine 1 stores
  let c := v2 + 1             -- goroutine 2 stores over it
  c

theorem load_store_loses_an_increment : lostUpdate = 1 ∧ lostUpdate ≠ 0 + [1, 1].sum := by decide

/-- non-vacuity: two goroutines really can be inside two accesses at once (two exporters reading) -/
example : ∃ a ∈ table, ∃ b ∈ table, concurrent a b = true ∧ exclude a b = false := by
  refine ⟨⟨2, 1, .r, [(2, false), (0, false)]⟩, by decide, ⟨3, 1, .r, [(2, false), (0, false)]⟩, by decide,
    by decide, by decide⟩

/-! ### regenerated control skeletons (written by lib/wire_skeletons.py) -/
/-- Obligations over regenerated facts: the functions this property's model stands for have the
    control skeleton the model was written against (`Proofs/Skeletons.lean`, one `rfl` per function
    or clause; DESIGN.md §11.6a) -/
theorem f_runtime_runtime_skeletons : Skeletons.F_runtime_runtimeShape := Skeletons.f_runtime_runtime_shape
theorem f_metrics_store_skeletons : Skeletons.F_metrics_storeShape := Skeletons.f_metrics_store_shape
theorem f_exporter_prometheus_skeletons : Skeletons.F_exporter_prometheusShape := Skeletons.f_exporter_prometheus_shape
theorem f_metrics_metric_skeletons : Skeletons.F_metrics_metricShape := Skeletons.f_metrics_metric_shape
theorem f_datum_int_skeletons : Skeletons.F_datum_intShape := Skeletons.f_datum_int_shape
theorem f_exporter_export_skeletons : Skeletons.F_exporter_exportShape := Skeletons.f_exporter_export_shape

end MtailVerif.C11
