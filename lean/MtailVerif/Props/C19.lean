import MtailVerif.Proofs.Pipeline
import MtailVerif.Proofs.Witness
import MtailVerif.Proofs.Skeletons
/-! # C19 — One-shot runs process every line once and then terminate

    Partial by nature: the theorems quantify over all schedules of the transition system in
    `Model/Pipeline.lean`; the real Go scheduler is only sampled by the correspondence runs. -/
namespace MtailVerif.C19
open MtailVerif MtailVerif.Pipeline

/-- a schedule: a list of actions, each enabled when taken -/
def runSched (s : St) : List Act → Option St
  | [] => some s
  | a :: rest => if enabled s a then runSched (step s a) rest else none

/-- every state reached by any schedule satisfies the invariant -/
theorem reachable_inv (files : List (List Bytes)) (nvm : Nat) (sched : List Act) (s : St)
    (h : runSched (init files nvm) sched = some s) : Inv files s := by
  have h0 := inv_init files nvm
  generalize init files nvm = s0 at h h0
  induction sched generalizing s0 with
  | nil => cases h; exact h0
  | cons a rest ih =>
    obtain ⟨he, h⟩ := Option.ite_none_right_eq_some.mp h
    exact ih _ h (inv_step files s0 h0 a he)

/-- C19 (termination): no reachable state is stuck before the end, and every action strictly
    decreases a natural-number measure — so every schedule reaches the final state, after at most
    `measure (init …)` actions -/
theorem oneshot_terminates (files : List (List Bytes)) (nvm : Nat) (sched : List Act) (s : St)
    (h : runSched (init files nvm) sched = some s) :
    (final s = false → ∃ a, enabled s a = true) ∧
    (∀ a, enabled s a = true → measure (step s a) < measure s) :=
  have hi := reachable_inv files nvm sched s h
  ⟨progress s hi.behind, measure_decreases s⟩

/-- C19 (exactly once, in file order): in the final state the lines that reached the programs are
    an interleaving of the files that keeps every file's order — each line of each file exactly
    once — and every VM has processed all of them, in that arrival order -/
theorem each_line_once_per_program (files : List (List Bytes)) (nvm : Nat) (sched : List Act) (s : St)
    (h : runSched (init files nvm) sched = some s) (hf : final s = true) :
    (∀ i, i < files.length → projFile i s.arrived = (files[i]?.getD [])) ∧
    (∀ d ∈ s.done, d = s.arrived.length) :=
  final_complete files s (reachable_inv files nvm sched s h) hf

/-- hence the order-witness program ends, for every schedule, with the same per-file results as
    running it over each file alone: all lines counted, the last number remembered, nothing out of
    order (the numbers of a file being strictly increasing) -/
theorem witness_result_schedule_independent (g : List (Nat × Nat)) (i : Nat) (ns : List Nat)
    (hproj : (g.filter (·.1 = i)).map (·.2) = ns) (hinc : (0 :: ns).Pairwise (· < ·)) :
    Witness.get (Witness.runW g) i = { count := ns.length, last := ns.getLast?.getD 0, ooo := 0 } := by
  unfold Witness.runW
  rw [Witness.runW_proj g i [], hproj]
  have := Witness.runOne_increasing ns {} (by simpa using hinc)
  simpa [Witness.get] using this

/-- non-vacuity: two files, two VMs, one complete schedule -/
example : (runSched (init [[[97]], [[98], [99]]] 2)
    [.emit 1, .process 0, .emit 0, .process 1, .process 1, .emit 1, .process 0, .process 0, .process 1]).map
      (fun s => (final s, s.arrived)) = some (true, [(1, [98]), (0, [97]), (1, [99])]) := by decide

/-! ### regenerated control skeletons (written by lib/wire_skeletons.py) -/
/-- Obligations over regenerated facts: the functions this property's model stands for have the
    control skeleton the model was written against (`Proofs/Skeletons.lean`, one `rfl` per function
    or clause; DESIGN.md §11.6a) -/
theorem streams_skeletons : Skeletons.StreamsShape := Skeletons.streams_shape
theorem line_skeletons : Skeletons.LineShape := Skeletons.line_shape
theorem dispatch_skeletons : Skeletons.DispatchShape := Skeletons.dispatch_shape
theorem f_vm_vm_skeletons : Skeletons.F_vm_vmShape := Skeletons.f_vm_vm_shape
theorem f_runtime_runtime_skeletons : Skeletons.F_runtime_runtimeShape := Skeletons.f_runtime_runtime_shape
theorem f_mtail_mtail_skeletons : Skeletons.F_mtail_mtailShape := Skeletons.f_mtail_mtail_shape
theorem f_logstream_filestream_skeletons : Skeletons.F_logstream_filestreamShape := Skeletons.f_logstream_filestream_shape
theorem f_tailer_tail_skeletons : Skeletons.F_tailer_tailShape := Skeletons.f_tailer_tail_shape
theorem f_logstream_logstream_skeletons : Skeletons.F_logstream_logstreamShape := Skeletons.f_logstream_logstream_shape

end MtailVerif.C19
