import MtailVerif.Model.Fold
import MtailVerif.Generated.Fold
import MtailVerif.Proofs.Skeletons
/-! # C02 — Constant folding never changes a program's results -/
namespace MtailVerif.C02
open MtailVerif.Fold
variable {F : Type}

/-- Obligation over regenerated facts: the `IntLit % FloatLit` case assigns the result to the node
    it returns, and the folder has exactly the twenty-four arithmetic cases the model encodes. -/
theorem fold_source_shape :
    Generated.Fold.intModFloatAssignsResult = true ∧ Generated.Fold.cases = [
      "BinaryExpr/IntLit/IntLit/PLUS: r.I = lhs.I + rhs.I",
      "BinaryExpr/IntLit/IntLit/MINUS: r.I = lhs.I - rhs.I",
      "BinaryExpr/IntLit/IntLit/MUL: r.I = lhs.I * rhs.I",
      "BinaryExpr/IntLit/IntLit/DIV: r.I = lhs.I / rhs.I",
      "BinaryExpr/IntLit/IntLit/MOD: r.I = lhs.I % rhs.I",
      "BinaryExpr/IntLit/IntLit/POW: r.I = int64(math.Pow(float64(lhs.I), float64(rhs.I)))",
      "BinaryExpr/IntLit/FloatLit/PLUS: r.F = float64(lhs.I) + rhs.F",
      "BinaryExpr/IntLit/FloatLit/MINUS: r.F = float64(lhs.I) - rhs.F",
      "BinaryExpr/IntLit/FloatLit/MUL: r.F = float64(lhs.I) * rhs.F",
      "BinaryExpr/IntLit/FloatLit/DIV: r.F = float64(lhs.I) / rhs.F",
      "BinaryExpr/IntLit/FloatLit/MOD: r.F = math.Mod(float64(lhs.I), rhs.F)",
      "BinaryExpr/IntLit/FloatLit/POW: r.F = math.Pow(float64(lhs.I), rhs.F)",
      "BinaryExpr/FloatLit/IntLit/PLUS: r.F = lhs.F + float64(rhs.I)",
      "BinaryExpr/FloatLit/IntLit/MINUS: r.F = lhs.F - float64(rhs.I)",
      "BinaryExpr/FloatLit/IntLit/MUL: r.F = lhs.F * float64(rhs.I)",
      "BinaryExpr/FloatLit/IntLit/DIV: r.F = lhs.F / float64(rhs.I)",
      "BinaryExpr/FloatLit/IntLit/MOD: r.F = math.Mod(lhs.F, float64(rhs.I))",
      "BinaryExpr/FloatLit/IntLit/POW: r.F = math.Pow(lhs.F, float64(rhs.I))",
      "BinaryExpr/FloatLit/FloatLit/PLUS: r.F = lhs.F + rhs.F",
      "BinaryExpr/FloatLit/FloatLit/MINUS: r.F = lhs.F - rhs.F",
      "BinaryExpr/FloatLit/FloatLit/MUL: r.F = lhs.F * rhs.F",
      "BinaryExpr/FloatLit/FloatLit/DIV: r.F = lhs.F / rhs.F",
      "BinaryExpr/FloatLit/FloatLit/MOD: r.F = math.Mod(lhs.F, rhs.F)",
      "BinaryExpr/FloatLit/FloatLit/POW: r.F = math.Pow(lhs.F, rhs.F)"] := ⟨rfl, rfl⟩

/-- a literal divisor that is zero -/
def zeroLit (o : FOps F) : E F → Bool
  | .int 0 => true
  | .float f => o.isZero f
  | _ => false

/-- does the expression contain `x / c` or `x % c` whose divisor folds to a literal zero? -/
def hasZeroDivisor (o : FOps F) (zero : F) : E F → Bool
  | .bin op a b =>
    hasZeroDivisor o zero a || hasZeroDivisor o zero b ||
    ((op = .div || op = .mod) && (match fold o zero true b with | .ok b' => zeroLit o b' | .error _ => false))
  | _ => false

/-- What the folder with `intModFloatOk = true` (the source's: `fold_source_shape`) may do with
    `e`: return an expression of the same value in every environment, or reject it, and then only
    for `reject`. -/
def Sound (o : FOps F) (e : E F) (reject : Prop) : Except FoldErr (E F) → Prop
  | .ok e' => ∀ env, eval o env e' = eval o env e
  | .error _ => reject

theorem foldNode_sound (o : FOps F) (zero : F) (op : Op) (a b : E F) :
    Sound o (.bin op a b) ((op = .div ∨ op = .mod) ∧ zeroLit o b = true) (foldNode o zero true op a b) := by
  -- the branches of `foldNode` in order: per pair of literal kinds (int∘int cases 1–3, int∘float 4–7,
  -- float∘int 8–10, float∘float 11–13) a zero divisor under `/`, under `%`, then the folded literal
  -- (int % float has one branch more, case 6, dead when `intModFloatOk`); case 14: an operand is no literal
  fun_cases foldNode o zero true op a b
  case case1 h | case4 h | case8 h | case11 h => exact ⟨.inl h.1, by simp [zeroLit, h.2]⟩
  case case2 h | case5 h | case9 h | case12 h => exact ⟨.inr h.1, by simp [zeroLit, h.2]⟩
  case case6 h => simp at h
  case case3 x y h1 h2 =>
    intro env
    have : ¬((op = .div ∨ op = .mod) ∧ y = 0) := fun ⟨h, hy⟩ => h.elim (h1 ⟨·, hy⟩) (h2 ⟨·, hy⟩)
    simp [eval, this]
  all_goals intro env; simp [eval]

theorem fold_sound (o : FOps F) (zero : F) (e : E F) :
    Sound o e (hasZeroDivisor o zero e = true) (fold o zero true e) := by
  induction e with
  | bin op a b iha ihb =>
    simp only [fold, hasZeroDivisor, Bool.or_eq_true]
    cases ha : fold o zero true a with
    | error _ => rw [ha] at iha; exact Or.inl (Or.inl iha)
    | ok a' =>
      cases hb : fold o zero true b with
      | error _ => rw [hb] at ihb; exact Or.inl (Or.inr ihb)
      | ok b' =>
        rw [ha] at iha; rw [hb] at ihb
        have hn := foldNode_sound o zero op a' b'
        simp only
        cases hf : foldNode o zero true op a' b' with
        | error _ => rw [hf] at hn; exact Or.inr (by simpa [Sound] using hn)
        | ok r => rw [hf] at hn; intro env; rw [hn env]; simp only [eval, iha env, ihb env]
  | _ => intro env; rfl

/-- C02 (results): whenever the folder accepts an expression, the folded expression evaluates —
    for every environment, with the VM's typing, wrapping and runtime-error rule, and for any
    float arithmetic — to exactly what the original evaluates to (same value or same error) -/
theorem fold_preserves_typed_eval (o : FOps F) (zero : F) (env : Env F) (e e' : E F)
    (h : fold o zero true e = .ok e') : eval o env e' = eval o env e := by
  have := fold_sound o zero e; rw [h] at this; exact this env

/-- C02 (rejection): the folder rejects a program only for a division or modulus whose divisor
    is (after folding) the literal zero -/
theorem fold_reject_only_zero_divisor (o : FOps F) (zero : F) (e : E F) (err : FoldErr)
    (h : fold o zero true e = .error err) : hasZeroDivisor o zero e = true := by
  have := fold_sound o zero e; rw [h] at this; exact this

/-- non-vacuity and the pre-repair behaviour: `7 % 2.0` folds to `mod 7.0 2.0` with the repaired
    folder and to `0.0` with the unrepaired one (floats as integers for this example) -/
def toyOps : FOps Int :=
  ⟨(· + ·), (· - ·), (· * ·), Int.tdiv, Int.tmod, fun a b => a ^ b.toNat, id, id, (· == 0)⟩
example : (fold toyOps 0 true (.bin .mod (.int 7) (.float 2))).toOption.map (eval toyOps ⟨fun _ => 0, fun _ => 0⟩ ·)
    = some (some (.f 1)) := by decide
example : (fold toyOps 0 false (.bin .mod (.int 7) (.float 2))).toOption.map (eval toyOps ⟨fun _ => 0, fun _ => 0⟩ ·)
    = some (some (.f 0)) := by decide

/-! ### regenerated control skeletons (written by lib/wire_skeletons.py) -/
/-- Obligations over regenerated facts: the functions this property's model stands for have the
    control skeleton the model was written against (`Proofs/Skeletons.lean`, one `rfl` per function
    or clause; DESIGN.md §11.6a) -/
theorem exec_skeletons : Skeletons.ExecShape := Skeletons.exec_shape
theorem compare_skeletons : Skeletons.CompareShape := Skeletons.compare_shape
theorem checkerAfter_skeletons : Skeletons.CheckerAfterShape := Skeletons.checkerAfter_shape
theorem optBefore_skeletons : Skeletons.OptBeforeShape := Skeletons.optBefore_shape
theorem optAfter_skeletons : Skeletons.OptAfterShape := Skeletons.optAfter_shape
theorem f_vm_vm_skeletons : Skeletons.F_vm_vmShape := Skeletons.f_vm_vm_shape
theorem f_opt_opt_skeletons : Skeletons.F_opt_optShape := Skeletons.f_opt_opt_shape
theorem f_compiler_compiler_skeletons : Skeletons.F_compiler_compilerShape := Skeletons.f_compiler_compiler_shape

end MtailVerif.C02
