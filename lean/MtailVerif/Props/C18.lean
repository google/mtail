import MtailVerif.Proofs.TailerPoll
import MtailVerif.Generated.Tailer
import MtailVerif.Proofs.Skeletons
/-! # C18 — Every matching log path is tailed, once -/
namespace MtailVerif.C18
open MtailVerif MtailVerif.TailerPoll

/-- the invariant of every reachable tailer state -/
structure Inv (cfg : Cfg) (t : T) : Prop where
  nodup : t.streams.Nodup
  sound : ∀ p ∈ t.streams, cfg.ignore (baseName p) = false ∧ ∃ pat ∈ cfg.patterns, cfg.globMatch pat p = true

theorem streamWake_kind (t : T) (p : Bytes) : kindOf (streamWake t) p = kindOf t p := rfl

/-- Obligation over regenerated facts: the control structure of the four functions the model
    stands for, as `go/extract` reads it from tail.go on every run (conditions, loop headers, what
    each branch ends in, locks, map updates; logging left out).  In particular: `Ignore` lets
    through everything that can be stat'ed and is no directory; `TailPath` looks the path up and
    registers it under one lock; a match that cannot be tailed does not end the walk over the
    matches (`if err := t.TailPath(absPath); err != nil {}` has no way out), and neither does a
    failed `doPatternGlob` end the polling loop. -/
theorem tailer_shape :
    Generated.Tailer.ignore = "filepath.Abs(pathname); if err != nil {return true}; os.Stat(absPath); if err != nil {return true}; if fi.Mode().IsDir() {return true}; return t.ignoreRegexPattern != nil && t.ignoreRegexPattern.MatchString(fi.Name())" ∧
    Generated.Tailer.tailPath = "t.logstreamsMu.Lock(); defer t.logstreamsMu.Unlock(); if _, ok := t.logstreams[pathname]; ok {return nil}; logstream.New(t.ctx, &t.wg, t.logstreamPollWaker, pathname, t.oneShot); if err != nil {return err}; t.logstreams[pathname] = l; t.wg.Add(1); go {defer t.wg.Done(); for range l.Lines() {t.lines <-}; t.logstreamsMu.Lock(); if !t.oneShot {delete(t.logstreams, pathname)}; logCount.Add(-1); t.logstreamsMu.Unlock()}; logCount.Add(1); return nil" ∧
    Generated.Tailer.doPatternGlob = "filepath.Glob(pattern); if err != nil {return err}; for range matches {if t.Ignore(pathname) {continue}; filepath.Abs(pathname); if err != nil {continue}; if err := t.TailPath(absPath); err != nil {}}; return nil" ∧
    Generated.Tailer.pollLogPattern = "if err := t.doPatternGlob(pattern); err != nil {}; if t.logPatternPollWaker == nil {return }; t.wg.Add(1); go {defer t.wg.Done(); <-t.initDone; if t.oneShot {return }; for  {select {case <-t.ctx.Done(): {return } case <-t.logPatternPollWaker.Wake(): {if err := t.doPatternGlob(pattern); err != nil {}}}}}" := ⟨rfl, rfl, rfl, rfl⟩

/-- C18 (after the next pattern poll): every existing regular file that matches a pattern and is
    not ignored is tailed; everything tailed matches a pattern, is not ignored, and is something a
    stream can hold open — never a directory, never a name that has gone, never a socket; a stream
    is only ever *started* on a regular file (what else can be tailed is a device that took the
    place of a log whose stream was already running); and there is exactly one stream per path —
    whatever happened before, for every pattern set, ignore rule and glob semantics. -/
theorem after_poll_tailed_eq_eligible (cfg : Cfg) (t : T) (hi : Inv cfg t) :
    let t' := poll cfg t
    t'.streams.Nodup ∧
    (∀ p, eligible cfg t p = true → p ∈ t'.streams) ∧
    (∀ p ∈ t'.streams, ((kindOf t p).map Kind.reopens).getD false = true ∧
        cfg.ignore (baseName p) = false ∧ ∃ pat ∈ cfg.patterns, cfg.globMatch pat p = true) ∧
    (∀ p ∈ t'.streams, p ∉ t.streams → eligible cfg t p = true) ∧
    t'.nodes = t.nodes ∧ t'.delivered = (streamWake t).delivered := by
  have pp := poll_post cfg t
  refine ⟨pp.nodup (hi.nodup.filter _), fun p he => (pp.mem p).mpr (Or.inr he), fun p hp => ?_, fun p hp hnot => ?_,
    pp.nodes, pp.delivered⟩
  · rcases (pp.mem p).mp hp with h | he
    · exact ⟨(List.mem_filter.mp h).2, hi.sound p (List.mem_filter.mp h).1⟩
    · obtain ⟨pat, hpat, hm, hk, hig⟩ := (eligible_iff cfg t p).mp he
      exact ⟨by simp [hk, Kind.reopens], hig, pat, hpat, hm⟩
  · exact ((pp.mem p).mp hp).resolve_left fun h => hnot (List.mem_filter.mp h).1

/-- in particular: no directory, no vanished name and no socket is tailed after a poll -/
theorem after_poll_never_dir (cfg : Cfg) (t : T) (hi : Inv cfg t) (p : Bytes) (hp : p ∈ (poll cfg t).streams) :
    kindOf t p ≠ some .dir ∧ kindOf t p ≠ some .socket ∧ kindOf t p ≠ none := by
  have h := ((after_poll_tailed_eq_eligible cfg t hi).2.2.1 p hp).1
  refine ⟨?_, ?_, ?_⟩ <;> intro e <;> simp [e, Kind.reopens] at h

/-- the invariant holds initially and is preserved by every operation: the same path is never
    tailed by two streams at once, at any point of any history -/
theorem inv_step (cfg : Cfg) (t : T) (hi : Inv cfg t) (op : Op) : Inv cfg (step cfg t op) := by
  cases op with
  | patternPoll =>
    -- the streams have not looked yet: whatever was tailed still is, and what the globs add is
    -- eligible and new
    have pp := pats_fold cfg cfg.patterns t
    refine ⟨pp.nodup hi.nodup, fun p hp => ?_⟩
    rcases (pp.mem p).mp hp with h | ⟨pat, hpat, hm, _, hig⟩
    · exact hi.sound p h
    · exact ⟨hig, pat, hpat, hm⟩
  | poll =>
    have h := after_poll_tailed_eq_eligible cfg t hi
    exact ⟨h.1, fun p hp => (h.2.2.1 p hp).2⟩
  | _ =>
    -- the filesystem operations: whichever branch of `step` is taken, it leaves the stream map,
    -- of which alone the invariant speaks, as it is
    dsimp only [step]
    repeat' split
    all_goals exact ⟨hi.nodup, hi.sound⟩

theorem never_two_streams_per_path (cfg : Cfg) (ops : List Op) : (run cfg {} ops).streams.Nodup :=
  (List.foldlRecOn ops (step cfg) (motive := Inv cfg) ⟨List.nodup_nil, by simp⟩
    fun t h op _ => inv_step cfg t h op).nodup

/-- a line is delivered at most once per append: an append to a tailed file the stream holds is
    delivered then (one entry); an append to a file that appeared at a tailed path since the stream
    last looked is kept pending (one entry); anything else is not delivered -/
theorem append_delivers_once (cfg : Cfg) (t : T) (p l : Bytes) :
    (step cfg t (.appendLine p l)).delivered = t.delivered ++
      (if kindOf t p = some .file ∧ t.streams.contains p ∧ ¬ t.fresh.contains p then [(p, l)] else []) ∧
    (step cfg t (.appendLine p l)).pending = t.pending ++
      (if kindOf t p = some .file ∧ t.streams.contains p ∧ t.fresh.contains p then [(p, l)] else []) := by
  simp only [step]
  by_cases h : kindOf t p = some .file ∧ t.streams.contains p
  · by_cases hf : t.fresh.contains p = true
    · rw [if_pos h, if_pos hf, if_neg fun x => x.2.2 hf, if_pos ⟨h.1, h.2, hf⟩]
      exact ⟨(List.append_nil _).symm, rfl⟩
    · rw [if_pos h, if_neg hf, if_pos ⟨h.1, h.2, hf⟩, if_neg fun x => hf x.2.2]
      exact ⟨rfl, (List.append_nil _).symm⟩
  · rw [if_neg h, if_neg fun x => h ⟨x.1, x.2.1⟩, if_neg fun x => h ⟨x.1, x.2.1⟩]
    exact ⟨(List.append_nil _).symm, (List.append_nil _).symm⟩

/-- pending lines are delivered at the next poll exactly if their file is still at the tailed
    path, and never again: the poll empties the pending list -/
theorem pending_settled_at_poll (cfg : Cfg) (t : T) :
    (poll cfg t).delivered = t.delivered ++
      t.pending.filter (fun d => kindOf t d.1 = some .file && t.streams.contains d.1) ∧
    (streamWake t).pending = [] :=
  ⟨(poll_post cfg t).delivered, rfl⟩

/-- something that is neither file nor directory and matches a pattern is never tailed, and the
    regular files that sort after it still are -/
example :
    let cfg : Cfg := ⟨[[100, 47, 42]], fun pat p => pat = [100, 47, 42] && p.take 2 = [100, 47], fun _ => false⟩
    (run cfg {} [.mkdir [100], .createOther [100, 47, 48] .device, .createOther [100, 47, 49] .socket,
      .createFile [100, 47, 97], .poll]).streams = [[100, 47, 97]] := by decide

/-- a pattern poll that comes before the stream has looked at its path again does not start a
    second stream on a log that was removed and has come back: the path is still in the map -/
example :
    let cfg : Cfg := ⟨[[100, 47, 42]], fun pat p => pat = [100, 47, 42] && p.take 2 = [100, 47], fun _ => false⟩
    (run cfg {} [.mkdir [100], .createFile [100, 47, 97], .poll, .remove [100, 47, 97], .patternPoll,
        .createFile [100, 47, 97], .patternPoll, .poll]).streams = [[100, 47, 97]] := by decide

/-- a device that takes the place of a tailed log is followed by the stream that was there; a socket
    that does ends it, and the next poll starts afresh on the log that comes back -/
example :
    let cfg : Cfg := ⟨[[100, 47, 42]], fun pat p => pat = [100, 47, 42] && p.take 2 = [100, 47], fun _ => false⟩
    ((run cfg {} [.mkdir [100], .createFile [100, 47, 97], .poll, .remove [100, 47, 97],
        .createOther [100, 47, 97] .device, .poll]).streams,
     (run cfg {} [.mkdir [100], .createFile [100, 47, 97], .poll, .remove [100, 47, 97],
        .createOther [100, 47, 97] .socket, .poll]).streams,
     (run cfg {} [.mkdir [100], .createFile [100, 47, 97], .poll, .remove [100, 47, 97],
        .createOther [100, 47, 97] .socket, .poll, .remove [100, 47, 97], .createFile [100, 47, 97], .poll]).streams)
      = ([[100, 47, 97]], [], [[100, 47, 97]]) := by decide

/-- non-vacuity: two overlapping patterns, one ignored file, one directory -/
example :
    let cfg : Cfg := ⟨[[100, 47, 42], [100, 47, 97]], fun pat p => pat = [100, 47, 42] && p.take 2 = [100, 47] || pat = p,
      fun b => b = [122]⟩
    (run cfg {} [.mkdir [100], .createFile [100, 47, 97], .createFile [100, 47, 122], .mkdir [100, 47, 115],
      .poll, .poll]).streams = [[100, 47, 97]] := by decide

/-! ### regenerated control skeletons (written by lib/wire_skeletons.py) -/
/-- Obligations over regenerated facts: the functions this property's model stands for have the
    control skeleton the model was written against (`Proofs/Skeletons.lean`, one `rfl` per function
    or clause; DESIGN.md §11.6a) -/
theorem dispatch_skeletons : Skeletons.DispatchShape := Skeletons.dispatch_shape
theorem f_tailer_tail_skeletons : Skeletons.F_tailer_tailShape := Skeletons.f_tailer_tail_shape
theorem f_logstream_logstream_skeletons : Skeletons.F_logstream_logstreamShape := Skeletons.f_logstream_logstream_shape

end MtailVerif.C18
