import MtailVerif.Proofs.Reload
import MtailVerif.Proofs.Skeletons
import MtailVerif.Proofs.DispatchRace
/-! # C20 — lines reach each program in order, exactly once, across reloads

    Partial by nature: the theorems quantify over every schedule of the transition system of
    Model/Reload.lean (one action per hand-off the Go code performs); the Go scheduler itself is
    sampled through the build-tagged hook at the start of `ProcessLogLine`. -/
namespace MtailVerif.C20
open MtailVerif.Reload

/-- nothing in flight: the fan-out holds no line and no VM holds one -/
def Quiescent (s : St) : Prop := s.pending = none ∧ inflight s = []

/-- **arrival order**: in every reachable state of the draining protocol the lines whose effects
    have been applied are a prefix of the arrival sequence — same order, no line skipped, none twice -/
theorem effects_in_arrival_order (as : List Act) (s : St) (h : run true {} as = some s) :
    s.applied <+: s.taken := by
  have hi := inv_run inv_init h
  exact ⟨inflight s ++ s.pending.toList, by rw [hi.order]; simp⟩

/-- **exactly one version per line**: the lines VMs have started are exactly the applied ones plus
    the one in flight, in arrival order; with distinct lines no line is ever started twice (never by
    both versions) -/
theorem each_line_started_once (as : List Act) (s : St) (h : run true {} as = some s)
    (hd : s.taken.Nodup) : (s.started.map (·.1)).Nodup ∧ s.started.map (·.1) <+: s.taken := by
  have hi := inv_run inv_init h
  have hp : s.started.map (·.1) <+: s.taken := ⟨s.pending.toList, by rw [hi.log, hi.order]⟩
  exact ⟨hp.sublist.nodup hd, hp⟩

/-- ... and never by neither: once nothing is in flight every line that arrived has been started
    and applied, in arrival order -/
theorem quiescent_all_applied (as : List Act) (s : St) (h : run true {} as = some s) (hq : Quiescent s) :
    s.applied = s.taken ∧ s.started.map (·.1) = s.taken := by
  have hi := inv_run inv_init h
  obtain ⟨hp, hf⟩ := hq
  have h1 : s.taken = s.applied := by simpa [hf, hp] using hi.order
  exact ⟨h1.symm, by simpa [hf, h1] using hi.log⟩

/-- so the last write a gauge sees is that of the last line -/
theorem last_write_is_last_line (as : List Act) (s : St) (h : run true {} as = some s) (hq : Quiescent s) :
    s.applied.getLast? = s.taken.getLast? := by
  rw [(quiescent_all_applied as s h hq).1]

/-- at most one VM of the program holds a line at any time -/
theorem only_current_vm_busy (as : List Act) (s : St) (h : run true {} as = some s) :
    ∀ v ∈ s.vms.tail, v.cur = none :=
  (inv_run inv_init h).oldIdle

/-- why the swap must wait: without the wait this schedule — line 2 handed to the old VM, reload,
    line 3 handed to the new VM and finished, then the old VM finishes line 2 — applies 2 after 3 -/
theorem swap_without_wait_reorders :
    (run false {} [.beginSwap, .endSwap, .take 2, .hand, .beginSwap, .endSwap, .take 3, .hand, .finish 2,
        .finish 1]).map (fun s => (s.pending, inflight s, s.taken, s.applied)) =
      some (none, [], [2, 3], [3, 2]) := by decide

/-- the same schedule is not a schedule of the draining protocol (the swap is not enabled) -/
theorem that_schedule_is_excluded :
    run true {} [.beginSwap, .endSwap, .take 2, .hand, .beginSwap, .endSwap] = none := by decide

/-- regenerated from runtime.go: the swap waits for the old VM, under the write lock, and the
    fan-out keeps the read lock across its sends -/
theorem source_shape :
    Generated.Reload.swapBlock = ["close(handle.lines)", "<-handle.done"] ∧
    Generated.Reload.swapWaitsForOldVM = true ∧ Generated.Reload.swapUnderWriteLock = true ∧
    Generated.Reload.fanoutHoldsReadLockAcrossSends = true := ⟨rfl, rfl, rfl, rfl⟩

/-- non-vacuity: a schedule with a reload in the middle of a line reaches a quiescent state -/
example : (run true {} [.beginSwap, .endSwap, .take 1, .hand, .beginSwap, .take 2, .finish 1, .endSwap, .hand,
    .finish 2]).map (fun s => (s.applied, s.started)) = some ([1, 2], [(1, 1), (2, 2)]) := by decide

/-- Obligation over a regenerated fact, and what it is for: `runtime.New`'s dispatcher holds the
    handle table's read lock from reading a program's channel to the end of the send (the fact),
    and under that discipline no schedule of the dispatcher's and any number of loaders' steps
    sends a line on a closed channel, or to a generation other than the installed one. -/
theorem dispatcher_sends_under_lock :
    Generated.Reload.fanoutHoldsReadLockAcrossSends = true ∧
      (∀ as : List DispatchRace.Act, (DispatchRace.run true {} as).bad = false) ∧
      (∀ as : List DispatchRace.Act, ∀ g ∈ (DispatchRace.run true {} as).sent, g ≤ (DispatchRace.run true {} as).gen) :=
  ⟨by decide, DispatchRace.send_under_lock_never_on_closed, DispatchRace.send_under_lock_to_installed⟩

/-- a dispatcher that copies the channels under the lock and sends after releasing it: the loader
    gets in between and the line goes to a closed channel (a panic that ends the process) -/
theorem sending_after_unlock_is_unsafe :
    (DispatchRace.run false {} [.dLock, .dSnap, .dUnlock, .lLock, .lSwap, .lUnlock, .dSend]).bad = true :=
  DispatchRace.send_after_unlock_hits_closed

/-! ### regenerated control skeletons (written by lib/wire_skeletons.py) -/
/-- Obligations over regenerated facts: the functions this property's model stands for have the
    control skeleton the model was written against (`Proofs/Skeletons.lean`, one `rfl` per function
    or clause; DESIGN.md §11.6a) -/
theorem loader_skeletons : Skeletons.LoaderShape := Skeletons.loader_shape
theorem line_skeletons : Skeletons.LineShape := Skeletons.line_shape
theorem dispatch_skeletons : Skeletons.DispatchShape := Skeletons.dispatch_shape
theorem f_vm_vm_skeletons : Skeletons.F_vm_vmShape := Skeletons.f_vm_vm_shape
theorem f_runtime_runtime_skeletons : Skeletons.F_runtime_runtimeShape := Skeletons.f_runtime_runtime_shape

end MtailVerif.C20
