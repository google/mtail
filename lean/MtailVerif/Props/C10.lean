import MtailVerif.Proofs.Key
import MtailVerif.Proofs.Gc
import MtailVerif.Generated.Gc
import MtailVerif.Proofs.Skeletons
/-! # C10 — Garbage collection removes exactly the expired and over-limit data -/
namespace MtailVerif.C10
open MtailVerif MtailVerif.Metric MtailVerif.Gc
variable {V : Type}

/-- Obligation over regenerated facts: every comparison at a decision point of `Store.Gc` and
    `RemoveOldestDatum` is the one the model encodes (`>`, `>=`, `i > Limit`, `<= 0`, strict
    `Before`, the `i--` after a removal). -/
theorem gc_source_shape :
    Generated.Gc.limitGuard = "m.Limit > 0 && len(m.LabelValues) >= m.Limit" ∧
    Generated.Gc.limitLoop = "i := len(m.LabelValues); i > m.Limit; i--" ∧
    Generated.Gc.expirySkip = "lv.Expiry <= 0" ∧
    Generated.Gc.expiryCond = "now.Sub(lv.Value.TimeUTC()) > lv.Expiry" ∧
    Generated.Gc.expiryDec = true ∧
    Generated.Gc.oldestCond = "oldestLV == nil || lv.Value.TimeUTC().Before(oldestLV.Value.TimeUTC())" ∧
    Generated.Gc.nowSrc = "time.Now()" ∧
    -- every metric is visited: the closure waits for the metric's lock (it does not skip a busy
    -- metric) and leaves only at its end
    Generated.Gc.closurePrologue = "m.Lock(); defer m.Unlock()" ∧ Generated.Gc.closureReturns = 1 := ⟨rfl, rfl, rfl, rfl, rfl, rfl, rfl, rfl, rfl⟩

/-- C10 (refinement): on every metric satisfying the representation invariant (every reachable
    metric, C09), the Go GC closure — limit loop calling RemoveOldestDatum, then the index walk
    with `i--` — succeeds, preserves the invariant and computes exactly `Spec.gc` of the
    ordered-map view. -/
theorem gc_refines_spec (tm : V → Int) (now limit : Int) (m : Metric V) (hi : Inv m) :
    ∃ m', gc tm now limit m = .ok m' ∧ Inv m' ∧ abs m' = Spec.gc tm now limit (abs m) ∧ m'.nkeys = m.nkeys :=
  Gc.gc_refines Key.encode_inj tm now limit m hi

/-! ### what `Spec.gc` guarantees -/

/-- limit phase: a metric over its limit ends with exactly `limit` entries -/
theorem gc_limit_size (tm : V → Int) (n : Nat) (s : Spec V) : (dropOldest tm n s).length = s.length - n := by
  induction n generalizing s with
  | zero => rfl
  | succ n ih => rw [dropOldest, ih, removeOldestS_length]; omega

/-- limit phase: every entry removed for the limit is no newer than every entry kept -/
theorem removed_no_newer_than_kept (tm : V → Int) (n : Nat) (s : Spec V)
    (hnd : (s.map (·.labels)).Nodup) (x : Entry V) (hx : x ∈ s) (hxr : x ∉ dropOldest tm n s)
    (k : Entry V) (hk : k ∈ dropOldest tm n s) : tm x.value ≤ tm k.value := by
  induction n generalizing s with
  | zero => exact absurd hx hxr
  | succ n ih =>
    have hsub := removeOldestS_sublist tm s
    by_cases hx1 : x ∈ removeOldestS tm s
    · exact ih _ (hnd.sublist (hsub.map _)) hx1 hxr hk
    · -- `x` goes in this round, and what is kept in the end was in `s`
      exact removeOldestS_oldest tm s hnd hx hx1 k (((dropOldest_sublist tm n _).trans hsub).subset hk)

/-- expiry phase: survivors are exactly the entries that are not expired, in order -/
theorem gc_expiry_exact (tm : V → Int) (now limit : Int) (s : Spec V) (e : Entry V) :
    e ∈ Spec.gc tm now limit s ↔
      e ∈ (if limit > 0 ∧ (s.length : Int) ≥ limit then dropOldest tm (s.length - limit.toNat) s else s) ∧
      ¬ (e.expiry > 0 ∧ sub now (tm e.value) > e.expiry) := by
  simp only [Spec.gc, List.mem_filter, expiredS, Bool.not_eq_true', Bool.and_eq_false_iff, Bool.not_eq_false',
    decide_eq_true_eq, decide_eq_false_iff_not]
  exact and_congr_right fun _ => by omega

/-- frame: GC never changes a surviving entry and never reorders (the result is a sublist) -/
theorem gc_frame (tm : V → Int) (now limit : Int) (s : Spec V) : (Spec.gc tm now limit s).Sublist s := by
  unfold Spec.gc
  refine List.filter_sublist.trans ?_
  split
  · exact dropOldest_sublist tm _ s
  · exact .refl _

/-- with a positive limit, at most `limit` entries remain -/
theorem gc_at_most_limit (tm : V → Int) (now limit : Int) (s : Spec V) (hl : limit > 0) :
    ((Spec.gc tm now limit s).length : Int) ≤ max limit s.length ∧
    ((s.length : Int) ≥ limit → ((Spec.gc tm now limit s).length : Int) ≤ limit) := by
  refine ⟨by have := (gc_frame tm now limit s).length_le; omega, fun hge => ?_⟩
  have h1 := gc_limit_size tm (s.length - limit.toNat) s
  have h2 := (List.filter_sublist (l := dropOldest tm (s.length - limit.toNat) s)
    (p := fun e => !expiredS tm now e)).length_le
  simp only [Spec.gc, hl, hge, and_self, if_true]
  omega

/-- non-vacuity: limit 2 over three entries (times 5,1,9), then one expired entry -/
example : ((Spec.gc (fun v : Int × Int => v.2) 100 2
    [⟨[[97]], (0, 5), 0⟩, ⟨[[98]], (0, 1), 0⟩, ⟨[[99]], (0, 9), 10⟩]).map (·.labels)) = [[[97]]] := by decide

/-! ### one lock acquisition from the first read to the last removal

    `gc_refines_spec` is about the closure as one step; that it *is* one step for every schedule is
    the lock it holds throughout (`closurePrologue` above, and the skeleton of `Store.Gc` below).
    What a pass that decides under one acquisition and removes, by label tuple, under a later one
    would do: -/

/-- the label tuples a scan finds expired -/
def scanS (tm : V → Int) (now : Int) (s : Spec V) : List (List Bytes) :=
  (s.filter (expiredS tm now)).map (·.labels)
/-- their removal, later -/
def deleteS (ls : List (List Bytes)) (s : Spec V) : Spec V := ls.foldl (fun s l => eraseS l s) s

/-- with nothing in between the two halves are the expiry pass -/
theorem split_pass_alone_keeps_unexpired (tm : V → Int) (now : Int) (s : Spec V) (e : Entry V)
    (he : e ∈ s)
    (huniq : ∀ x ∈ s, expiredS tm now x = true → x.labels ≠ e.labels) :
    e ∈ deleteS (scanS tm now s) s := by
  -- no tuple the scan lists is `e`'s, so no removal takes `e`
  refine List.foldlRecOn (motive := (e ∈ ·)) _ _ he fun t ht l hl => ?_
  obtain ⟨x, hx, rfl⟩ := List.mem_map.mp hl
  have hne := huniq x (List.mem_filter.mp hx).1 (List.mem_filter.mp hx).2
  rw [eraseS_eq]
  exact (List.mem_eraseP_of_neg (by simpa using hne.symm)).mpr ht
/-- **a split pass is not the property's GC**: label `a`, written at 0, expiring after 1 ns, is found
    expired at 100; before the removal the VM deletes it (`del m["a"]`) and a line creates it anew,
    stamped 100, with no expiry.  Nothing in that state is expired — the property's GC leaves it as
    it is — and the late removal takes the new datum. -/
def raceBefore : Spec Int := [⟨[[97]], 0, 1⟩]
def raceAfter : Spec Int := eraseS [[97]] raceBefore ++ [⟨[[97]], 100, 0⟩]
theorem split_pass_is_unsafe :
    scanS id 100 raceBefore = [[[97]]] ∧ raceAfter.all (fun e => !expiredS id 100 e) = true ∧
      (Spec.gc id 100 0 raceAfter).map (·.value) = [100] ∧
      (deleteS (scanS id 100 raceBefore) raceAfter).map (·.value) = [] := by decide

/-! ### regenerated control skeletons (written by lib/wire_skeletons.py) -/
/-- Obligations over regenerated facts: the functions this property's model stands for have the
    control skeleton the model was written against (`Proofs/Skeletons.lean`, one `rfl` per function
    or clause; DESIGN.md §11.6a) -/
theorem metric_skeletons : Skeletons.MetricShape := Skeletons.metric_shape
theorem f_metrics_store_skeletons : Skeletons.F_metrics_storeShape := Skeletons.f_metrics_store_shape
theorem f_metrics_metric_skeletons : Skeletons.F_metrics_metricShape := Skeletons.f_metrics_metric_shape

end MtailVerif.C10
