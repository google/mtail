import MtailVerif.Proofs.FileStream
import MtailVerif.Generated.FileStream
import MtailVerif.Proofs.ReaderBuf
import MtailVerif.Proofs.Skeletons
/-! # C16 — A tailed file delivers every appended line exactly once across rotation -/
namespace MtailVerif.C16
open MtailVerif MtailVerif.FileStream

/-- Obligations over regenerated facts: the rotation branch flushes the old reader before it
    switches, `Finish` forgets the remainder it has sent, truncation is `size < offset`, rotation
    is `!SameFile`, a rotated-in file is read from its start, a newly found file from its end;
    `Finish` sends the remainder by a plain send (no alternative it could take instead), and the
    exit taken when tailing is stopped calls it. -/
theorem filestream_shape :
    Generated.FileStream.finishOnRotate = true ∧ Generated.FileStream.finishClears = true ∧
    Generated.FileStream.truncateCond = "newfi.Size() < currentOffset" ∧
    Generated.FileStream.sameFileCond = "!os.SameFile(fi, newfi)" ∧
    Generated.FileStream.streamFromStartInit = "oneShot == OneShotEnabled" ∧
    Generated.FileStream.rotateFromStart = true ∧
    Generated.FileStream.finishSendsAlways = true ∧ Generated.FileStream.finishOnStop = true :=
  ⟨rfl, rfl, rfl, rfl, rfl, rfl, rfl, rfl⟩

/-- the configuration the current source has -/
def cfg : Cfg := ⟨Generated.FileStream.finishOnRotate, Generated.FileStream.finishClears⟩

/-- every history keeps the stream and the specification related -/
theorem reachable_inv (ops : List Op) : Inv (run cfg start ops) (Spec.run ops) :=
  run_inv cfg filestream_shape.1 filestream_shape.2.1 ops start {} inv_start

/-- C16: for every history of appends (with or without trailing newline), truncations,
    rename-and-create rotations, copy-truncate rotations, deletions, re-creations and idle polls,
    each observed before the next, the lines delivered for the path are exactly what the
    specification prescribes: the appended lines in order, each once, with one trailing CR
    removed, and every generation's unterminated fragment flushed once, as its own line, when
    that generation ends — never merged with later data. -/
theorem observed_history_exact (ops : List Op) :
    (run cfg start ops).delivered = (Spec.run ops).out :=
  (reachable_inv ops).out

/-- ... and when tailing is then stopped, the fragment of the generation being tailed is delivered
    too, once, as its own line -/
theorem stopped_history_exact (ops : List Op) :
    (stop (run cfg start ops)).delivered = (Spec.stop (Spec.run ops)).out :=
  stop_delivered _ _ (reachable_inv ops)

/-- the specification says what the property says, on a concrete history:
    "one\n", "frag", truncate, "two\n", rotate, "x", delete, create, "y\n" -/
example : (Spec.run [.append [111, 110, 101, 10], .append [102, 114], .truncate, .append [116, 119, 111, 10],
    .rotate, .append [120], .delete, .create, .append [121, 10]]).out =
    [[111, 110, 101], [102, 114], [116, 119, 111], [120], [121]] := by decide

/-- stopping with a fragment pending: "one\n", "fr", stop -/
example : (Spec.stop (Spec.run [.append [111, 110, 101, 10], .append [102, 114]])).out = [[111, 110, 101], [102, 114]] := by decide

/-- and the pre-repair behaviour really differs: with `Finish` not clearing its buffer the
    fragment is delivered twice, the second time glued to the next line -/
example : (run ⟨true, false⟩ start [.append [102, 114], .truncate, .append [116, 10]]).delivered =
    [[102, 114], [102, 114, 116]] := by decide

/-! ### the reader's buffer
    The file stream reads through the `LineReader` of C15, and a reader that is offered no room takes
    in nothing more of the file: the two obligations on its buffer are part of this property as
    they are of C15, with the same two test histories (`Props/C15.lean` says what each shows). -/

/-- Obligation over regenerated facts: that of `C15.buffer_shape`. -/
theorem buffer_shape :
    Generated.Reader.readOffer = "lr.buf[len(lr.buf):cap(lr.buf)]" ∧
    Generated.Reader.dropConsumed = "lr.buf[lr.off:len(lr.buf)]" ∧
    Generated.Reader.newBuf = "make([]byte, 0, size)" := ⟨rfl, rfl, rfl⟩

/-- `C15.every_read_is_offered_room`, for the reader the file stream reads through -/
theorem every_read_is_offered_room (size : Nat) (ops : List ReaderBuf.Op) :
    ∀ n ∈ ReaderBuf.offers ReaderBuf.src size (ReaderBuf.new size) ops, size ≤ n :=
  ReaderBuf.offers_ge size ops (ReaderBuf.inv_new size)

example : ReaderBuf.offers ReaderBuf.src 4 (ReaderBuf.new 4) [.read 4 4, .read 1 0, .finish, .read 9 2] = [4, 4, 4] := by decide
example : ReaderBuf.offers ⟨Generated.Reader.needGrow, fun _ cap _ => 2 * cap⟩ 4 (ReaderBuf.new 4)
    [.read 4 4, .read 1 0, .read 1 0] = [4, 0, 0] := by decide

/-! ### regenerated control skeletons (written by lib/wire_skeletons.py) -/
/-- Obligations over regenerated facts: the functions this property's model stands for have the
    control skeleton the model was written against (`Proofs/Skeletons.lean`, one `rfl` per function
    or clause; DESIGN.md §11.6a) -/
theorem streams_skeletons : Skeletons.StreamsShape := Skeletons.streams_shape
theorem f_logstream_reader_skeletons : Skeletons.F_logstream_readerShape := Skeletons.f_logstream_reader_shape
theorem f_logstream_filestream_skeletons : Skeletons.F_logstream_filestreamShape := Skeletons.f_logstream_filestream_shape
theorem f_tailer_tail_skeletons : Skeletons.F_tailer_tailShape := Skeletons.f_tailer_tail_shape
theorem f_logstream_logstream_skeletons : Skeletons.F_logstream_logstreamShape := Skeletons.f_logstream_logstream_shape

end MtailVerif.C16
