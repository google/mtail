import MtailVerif.Proofs.Key
import MtailVerif.Proofs.Skeletons
/-! # C08 — Distinct label tuples always name distinct data

    `Key.encode` is the model of `buildLabelValueKey`, with the replacement pairs and the
    terminator regenerated from the Go source.  The obligation `key_shape` says the
    regenerated constants have the escaping shape for which injectivity is proved. -/
namespace MtailVerif.C08
open MtailVerif.Key

/-- the escape and separator bytes the proof is instantiated with -/
def esc : UInt8 := 92   -- '\\'
def sep : UInt8 := 45   -- '-'

/-- Obligation over regenerated facts: the source escapes the escape byte, then the
    separator, and terminates each label with the bare separator. -/
theorem key_shape :
    Generated.Key.replacements = goodReps esc sep ∧ Generated.Key.terminator = [sep] ∧ esc ≠ sep :=
  ⟨rfl, rfl, by decide⟩

/-- the key determines the tuple, whatever the arities -/
theorem encode_injective_any (a b : List Bytes) : encode a = encode b ↔ a = b :=
  ⟨encode_inj a b, congrArg encode⟩

/-- C08 (key level): two tuples of the same arity have the same key iff they are equal. -/
theorem encode_injective (a b : List Bytes) (hl : a.length = b.length) :
    encode a = encode b ↔ a = b :=
  have _ := hl  -- not needed: the key determines the tuple whatever the arities
  encode_injective_any a b

/-- non-vacuity: tuples built from the separator and the escape byte are told apart -/
example : encode [[120, 92], [121, 45, 122]] ≠ encode [[120, 45, 121, 92], [122]] := by decide

/-! ### regenerated control skeletons (written by lib/wire_skeletons.py) -/
/-- Obligations over regenerated facts: the functions this property's model stands for have the
    control skeleton the model was written against (`Proofs/Skeletons.lean`, one `rfl` per function
    or clause; DESIGN.md §11.6a) -/
theorem metric_skeletons : Skeletons.MetricShape := Skeletons.metric_shape
theorem f_metrics_metric_skeletons : Skeletons.F_metrics_metricShape := Skeletons.f_metrics_metric_shape

end MtailVerif.C08
