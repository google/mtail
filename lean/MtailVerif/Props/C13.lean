import MtailVerif.Proofs.Prom
import MtailVerif.Proofs.Skeletons
/-! # C13 — Prometheus exposition reflects the store exactly -/
namespace MtailVerif.C13
open MtailVerif MtailVerif.Prom

/-- C13 (exactly the representable series): whatever the iteration order bookkeeping
    (`lastMetric`, `lastSource`), the collector emits, for each non-text metric, exactly the
    samples of its representable label sets, in label-set order — nothing else, nothing twice. -/
theorem collect_spec (cfg : Config) (last : Bytes × Bytes) (ms : List Metric) :
    collect cfg last ms = ms.flatMap (samplesOfMetric cfg) := by
  induction ms generalizing last with
  | nil => rfl
  | cons m rest ih =>
    simp only [collect, List.flatMap_cons, ih]
    congr 1
    unfold collectMetric samplesOfMetric
    split <;> simp [collectMetricLoop_eq]

theorem mem_collect (cfg : Config) (last : Bytes × Bytes) (ms : List Metric) (s : Sample) :
    s ∈ collect cfg last ms ↔
      ∃ m ∈ ms, m.kind ≠ .text ∧ ∃ ls ∈ m.lsets, representable cfg m ls = true ∧ s = sampleOf cfg m ls := by
  simp only [collect_spec, List.mem_flatMap, samplesOfMetric]
  refine exists_congr fun m => and_congr_right fun _ => ?_
  split <;> simp [*, and_assoc, eq_comm (a := s)]

/-- a representable label set of a non-text metric is exported, with the prescribed name, labels,
    type, value and timestamp, no matter which *other* label sets are unrepresentable -/
theorem representable_exported (cfg : Config) (last : Bytes × Bytes) (ms : List Metric) (m : Metric)
    (ls : LabelSet) (hm : m ∈ ms) (hk : m.kind ≠ .text) (hl : ls ∈ m.lsets)
    (hr : representable cfg m ls = true) : sampleOf cfg m ls ∈ collect cfg last ms :=
  (mem_collect ..).mpr ⟨m, hm, hk, ls, hl, hr, rfl⟩

/-- what one exported sample says -/
theorem sample_fields (cfg : Config) (m : Metric) (ls : LabelSet) :
    (sampleOf cfg m ls).name = noHyphens m.name ∧
    (sampleOf cfg m ls).labels = (labelNames cfg m ls).zip (labelValues cfg m ls) ∧
    (sampleOf cfg m ls).typ = typeForKind m.kind ∧
    ((sampleOf cfg m ls).timeMs.isSome = cfg.emitTimestamp) ∧
    (ls.datum.hist = none → (sampleOf cfg m ls).value = ls.datum.asFloat) := by
  have ht : ∀ t : Int, (if cfg.emitTimestamp then some t else none).isSome = cfg.emitTimestamp := by
    cases cfg.emitTimestamp <;> exact fun _ => rfl
  -- both arms of `sampleOf` keep the first four fields of `base`
  simp only [sampleOf]
  split
  · next h => exact ⟨rfl, rfl, rfl, ht _, fun hn => by rw [hn] at h; cases h⟩
  · exact ⟨rfl, rfl, rfl, ht _, fun _ => rfl⟩

/-- text metrics and unrepresentable label sets are never exported; a sample in the output
    always comes from a representable label set of a non-text metric -/
theorem exported_only_representable (cfg : Config) (last : Bytes × Bytes) (ms : List Metric) (s : Sample)
    (h : s ∈ collect cfg last ms) :
    ∃ m ∈ ms, m.kind ≠ .text ∧ ∃ ls ∈ m.lsets, representable cfg m ls = true ∧ s = sampleOf cfg m ls :=
  (mem_collect ..).mp h

/-- histogram samples: cumulative counts are non-decreasing in bound order -/
theorem histogram_cumulative_monotone (bs : List (Buckets.FV × UInt64 × Nat)) :
    (cumByMax bs).Pairwise (fun a b => a.2 ≤ b.2) :=
  (cumulate_mono 0 _).2

/-- … and, the bounds being distinct, the last cumulative count is the sum of all bucket
    counts — which by C21 (`sum_buckets_eq_count`) is the observation count -/
theorem histogram_last_cumulative_eq_total (bs : List (Buckets.FV × UInt64 × Nat))
    (hnd : (bs.map (·.1)).Nodup) :
    ∀ x, (cumByMax bs).getLast? = some x → x.2 = sumC bs := by
  intro x hx
  rw [cumulate_last 0 _ x hx, Nat.zero_add, sumC_perm (foldl_insertByMax_perm bs [] (by simpa using hnd)), List.append_nil]

/-- non-vacuity: a gauge with a hyphenated name, two label sets, the first not valid UTF-8 -/
example : (collect ⟨false, false⟩ ([], [])
    [⟨[97, 45, 98], [112], .gauge, [[107]], [⟨[[255]], ⟨1, 0, none⟩⟩, ⟨[[120]], ⟨2, 0, none⟩⟩]⟩]).map
      (fun s => (s.name, s.labels, s.value)) =
    [([97, 95, 98], [([112, 114, 111, 103], [112]), ([107], [120])], 2)] := by decide

/-! ### regenerated control skeletons (written by lib/wire_skeletons.py) -/
/-- Obligations over regenerated facts: the functions this property's model stands for have the
    control skeleton the model was written against (`Proofs/Skeletons.lean`, one `rfl` per function
    or clause; DESIGN.md §11.6a) -/
theorem export_skeletons : Skeletons.ExportShape := Skeletons.export_shape
theorem datum_skeletons : Skeletons.DatumShape := Skeletons.datum_shape
theorem f_exporter_prometheus_skeletons : Skeletons.F_exporter_prometheusShape := Skeletons.f_exporter_prometheus_shape
theorem f_datum_datum_skeletons : Skeletons.F_datum_datumShape := Skeletons.f_datum_datum_shape
theorem f_mtail_mtail_skeletons : Skeletons.F_mtail_mtailShape := Skeletons.f_mtail_mtail_shape

end MtailVerif.C13
