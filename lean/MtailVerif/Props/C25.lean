import MtailVerif.Proofs.Runtime
import MtailVerif.Generated.Runtime
import MtailVerif.Proofs.Skeletons
/-! # C25 — Self-monitoring counters are exact (program-loader part)

    Each call of `compileAndRun` is exactly one of: no-op (unchanged content), a load, or a load
    error; the matching counter moves by exactly one and the others do not move. -/
namespace MtailVerif.C25
open MtailVerif MtailVerif.Runtime

/-- Obligation over regenerated facts: a refused registration is counted as a load error, and
    `CompileAndRun` has exactly one `ProgLoads.Add`, and four `ProgLoadErrors.Add`, one before each
    of its error returns (hashing, compile errors, no object, refused registration). -/
theorem counter_sites_shape :
    Generated.Runtime.registrationErrorCounted = true ∧
    Generated.Runtime.loadsAddsInCompileAndRun = 1 ∧
    Generated.Runtime.loadErrorAddsInCompileAndRun = 4 := ⟨rfl, rfl, rfl⟩

def count (k : Bytes) (l : List (Bytes × Nat)) : Nat :=
  match l.find? (·.1 = k) with
  | some p => p.2
  | none => 0

theorem count_bump (k k' : Bytes) (l : List (Bytes × Nat)) :
    count k' (bump k l) = count k' l + if k' = k then 1 else 0 := by
  unfold count
  fun_induction bump k l with
  | case1 =>
    by_cases h : k' = k
    · simp [h]
    · simp [h, Ne.symm h]
  | case2 p rest hp =>
    by_cases h : k' = k
    · simp [hp, h]
    · simp [hp, h, Ne.symm h]
  | case3 p rest hp ih =>
    rw [List.find?_cons, List.find?_cons]
    by_cases h : p.1 = k'
    · rw [decide_eq_true h, if_neg fun e => hp (h.trans e)]; rfl
    · rw [decide_eq_false h]; exact ih

/-- C25 (loader): with refused registrations counted, every `compileAndRun` moves exactly the
    counter of what happened — a load, a load error (compile error *or* refused registration), or
    nothing for unchanged content — for that program, by exactly one -/
theorem counters_exact_step (cfg : Cfg) (hcfg : cfg.countRegistrationError = true) (r : RT) (name : Bytes) (v : Version) :
    let r' := compileAndRun cfg r name v
    (match decision cfg r name v with
     | .unchanged => count name r'.loads = count name r.loads ∧ count name r'.loadErrors = count name r.loadErrors
     | .loaded _ => count name r'.loads = count name r.loads + 1 ∧ count name r'.loadErrors = count name r.loadErrors
     | .compileError => count name r'.loads = count name r.loads ∧ count name r'.loadErrors = count name r.loadErrors + 1
     | .refused _ => count name r'.loads = count name r.loads ∧ count name r'.loadErrors = count name r.loadErrors + 1) ∧
    r'.unloads = r.unloads ∧ r'.lineCount = r.lineCount := by
  unfold compileAndRun
  cases decision cfg r name v <;> simp [hcfg, count_bump]

/-- counters of other programs never move -/
theorem counters_of_others_untouched (cfg : Cfg) (r : RT) (name other : Bytes) (v : Version) (hne : other ≠ name) :
    count other (compileAndRun cfg r name v).loads = count other r.loads ∧
    count other (compileAndRun cfg r name v).loadErrors = count other r.loadErrors := by
  unfold compileAndRun
  cases decision cfg r name v with
  | refused ps => cases cfg.countRegistrationError <;> simp [count_bump, hne]
  | _ => simp [count_bump, hne]

/-- unloading moves exactly the unload counter of that program -/
theorem unload_counts (r : RT) (name : Bytes) :
    count name (unload r name).unloads = count name r.unloads + 1 ∧
    (unload r name).loads = r.loads ∧ (unload r name).loadErrors = r.loadErrors := by
  simp [unload, count_bump]

/-- every line handed to the loader moves `lines_total` by exactly one -/
theorem line_counts (r : RT) (key : Bytes) (m : Bool) : (line r key m).lineCount = r.lineCount + 1 :=
  foldl_fixed (f := lineProg key m) RT.lineCount (lineProg_lineCount key m) r.handles _

/-- a program's runtime-error counter moves by one exactly when it raises a runtime error on the
    line, and otherwise not at all -/
theorem runtime_error_counted (key : Bytes) (m : Bool) (r : RT) (h : Bytes × Handle) :
    count h.1 (lineProg key m r h).runtimeErrors =
      count h.1 r.runtimeErrors + (if m ∧ h.2.version.runtimeError then 1 else 0) := by
  unfold lineProg
  simp only
  split
  · simp [count_bump]
  · rw [foldl_fixed (·.runtimeErrors) (applyDecl_runtimeErrors h.1 key m) _ r]; simp

/-! ### regenerated control skeletons (written by lib/wire_skeletons.py) -/
/-- Obligations over regenerated facts: the functions this property's model stands for have the
    control skeleton the model was written against (`Proofs/Skeletons.lean`, one `rfl` per function
    or clause; DESIGN.md §11.6a) -/
theorem loader_skeletons : Skeletons.LoaderShape := Skeletons.loader_shape
theorem exec_skeletons : Skeletons.ExecShape := Skeletons.exec_shape
theorem f_vm_vm_skeletons : Skeletons.F_vm_vmShape := Skeletons.f_vm_vm_shape
theorem f_runtime_runtime_skeletons : Skeletons.F_runtime_runtimeShape := Skeletons.f_runtime_runtime_shape
theorem f_mtail_mtail_skeletons : Skeletons.F_mtail_mtailShape := Skeletons.f_mtail_mtail_shape
theorem f_logstream_reader_skeletons : Skeletons.F_logstream_readerShape := Skeletons.f_logstream_reader_shape
theorem f_tailer_tail_skeletons : Skeletons.F_tailer_tailShape := Skeletons.f_tailer_tail_shape

end MtailVerif.C25
