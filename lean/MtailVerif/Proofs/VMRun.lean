import MtailVerif.Proofs.VMSound
/-! From one instruction to whole lines: the certificate is an invariant of `run`. -/
namespace MtailVerif.VM.Verify
open MtailVerif MtailVerif.VM

theorem checkFrom_at {p : Prog} {c : Cert} : ∀ (code : List Instr) (k : Nat), checkFrom p c k code = true →
    ∀ j i, code[j]? = some i → checkAt p c (k + j) i = true
  | [], _, _, _, _, hj => by cases hj
  | _ :: _, _, h, 0, _, hj => by cases hj; exact (Bool.and_eq_true_iff.mp h).1
  | _ :: xs, k, h, j + 1, i, hj =>
    Nat.add_right_comm k 1 j ▸ checkFrom_at xs (k + 1) (Bool.and_eq_true_iff.mp h).2 j i hj

/-- what the check demands at a pc the certificate describes: the instruction is accepted, and
    each successor lies ahead and, inside the program, is described at least as weakly -/
theorem checkFrom_succs {p : Prog} {c : Cert} (h : checkFrom p c 0 p.code = true) {pc : Nat} {i : Instr} {s : AStack}
    (hi : p.code[pc]? = some i) (hs : certAt c pc = some s) :
    ∃ succs, astep p pc i s = some succs ∧
      ∀ x ∈ succs, pc < x.1 ∧ (x.1 < p.code.length → ∃ w, certAt c x.1 = some w ∧ le w x.2 = true) := by
  have hchk := checkFrom_at p.code 0 h pc i hi
  simp only [Nat.zero_add, checkAt, hs] at hchk
  split at hchk
  · cases hchk
  · next succs ha =>
    simp only [List.all_eq_true, Bool.and_eq_true, decide_eq_true_eq] at hchk
    refine ⟨succs, ha, fun x hx => ⟨(hchk x hx).1, fun hlt => ?_⟩⟩
    have hw := (hchk x hx).2
    rw [if_pos hlt] at hw
    split at hw
    · next w e => exact ⟨w, e, hw⟩
    · cases hw

/-- the store is well typed and, inside the program, the certificate describes the stack -/
def Inv (p : Prog) (c : Cert) (t : Thread) (st : MStore) : Prop :=
  StoreOK p st t.dead ∧ (t.pc < p.code.length → ∃ s, certAt c t.pc = some s ∧ sOK p st t.dead s t.stack)

structure Good (p : Prog) (r : LineResult) : Prop where
  noFault : ∀ f, r.out ≠ .fault f
  checkedOnly : r.out ≠ .err .arity
  store : StoreOK p r.store []

/-- one instruction under a certificate that checks: it keeps `Inv` and moves forward, or ends the
    line as `Good` demands -/
theorem step_inv {o : Oracle} {p : Prog} {inp : Input} {c : Cert} (hc : checkCert p c = true) {t : Thread} {st : MStore}
    {memo memo' : Memo} {i : Instr} {r : Res} (hinv : Inv p c t st) (hi : p.code[t.pc]? = some i)
    (hs : step o p inp i t st memo = (r, memo')) :
    match r with
    | .next t' st' => Inv p c t' st' ∧ t.pc < t'.pc
    | .stop st' => StoreOK p st' []
    | .err e st' => e ≠ .arity ∧ StoreOK p st' []
    | .fault _ _ => False := by
  simp only [checkCert, Bool.and_eq_true] at hc
  obtain ⟨s, hcert, hst⟩ := hinv.2 (List.getElem?_eq_some_iff.mp hi).1
  obtain ⟨succs, ha, hsuccs⟩ := checkFrom_succs hc.2 hi hcert
  have hres := step_sound o p inp i t st memo s succs hc.1.1 hinv.1 hst ha
  rw [hs] at hres
  cases r with
  | next t' st' =>
    obtain ⟨hs', x, hx, hpc', hst'⟩ := hres
    obtain ⟨hfwd, hcov⟩ := hsuccs x hx
    refine ⟨⟨hs', fun hlt' => ?_⟩, hpc' ▸ hfwd⟩
    obtain ⟨w, hw, hle⟩ := hcov (hpc' ▸ hlt')
    exact ⟨w, hpc' ▸ hw, sOK_le hle hst'⟩
  | _ => exact hres

theorem run_sound (o : Oracle) (p : Prog) (inp : Input) (c : Cert) (hc : checkCert p c = true) :
    ∀ (fuel : Nat) (t : Thread) (st : MStore) (memo : Memo), Inv p c t st →
      Good p (run o p inp fuel t st memo) ∧
      (p.code.length - t.pc < fuel → (run o p inp fuel t st memo).out ≠ .fuel) := by
  intro fuel t st memo hinv
  -- the clauses of `run`: (1) no fuel, (2) a pc outside the program, and after a step that
  -- (3) goes on, (4) stops, (5) raises a checked error, (6) faults
  fun_induction run o p inp fuel t st memo with
  | case1 | case2 => exact ⟨⟨by simp, by simp, hinv.1.forget⟩, by simp⟩
  | case3 fuel t st memo i hi t' st' memo' hs ih =>
    obtain ⟨hinv', hfwd⟩ := step_inv hc hinv hi hs
    obtain ⟨g, gf⟩ := ih hinv'
    have hlt := (List.getElem?_eq_some_iff.mp hi).1
    exact ⟨g, fun hf => gf (by omega)⟩
  | case4 fuel t st memo i hi st' memo' hs => exact ⟨⟨by simp, by simp, step_inv hc hinv hi hs⟩, by simp⟩
  | case5 fuel t st memo i hi e st' memo' hs =>
    obtain ⟨he, hst'⟩ := step_inv hc hinv hi hs
    exact ⟨⟨by simp, by simpa using he, hst'⟩, by simp⟩
  | case6 fuel t st memo i hi f st' memo' hs => exact (step_inv hc hinv hi hs).elim

theorem inv_init {p : Prog} {c : Cert} (hc : checkCert p c = true) {st : MStore} (hs : StoreOK p st []) :
    Inv p c {} st := by
  simp only [checkCert, Bool.and_eq_true, Bool.or_eq_true, beq_iff_eq] at hc
  refine ⟨hs, fun hlt => ?_⟩
  rcases hc.1.2 with h | h
  · simp at h; simp [h] at hlt
  · exact ⟨[], h, trivial⟩

end MtailVerif.VM.Verify
