import MtailVerif.Proofs.ScopeFires
/-! Invariants of the checker's state.  The walk changes the scopes, the symbol table and the use
    marks in ten ways (`Kept`); a state predicate that each of them keeps is kept by every visit
    (`Kept.closed`, then `walk_rel`; `Core a b`: none of the three differs between `a` and `b`).
    What the two invariants of this development (`Inv name`, `G P x id`) have in common is stated
    once here: symbol ids are indices (`Ids`), and every entry of every scope the state holds
    satisfies an entry predicate (`Entries`) that holds of the only entries the checker makes
    (`Own`). -/
namespace MtailVerif.Scope
open MtailVerif MtailVerif.Ast

structure Core (a b : St) : Prop where
  frames : b.frames = a.frames
  syms : b.syms = a.syms
  decos : b.decoScopes = a.decoScopes
  zyg : b.zygotes = a.zygotes
  used : b.used = a.used

theorem core_errors (s : St) {es : List Err} : Core s { s with errors := es } := ⟨rfl, rfl, rfl, rfl, rfl⟩
theorem core_err (s : St) {c : Cls} {p : Option Pos} : Core s (s.err c p) := core_errors s
theorem core_depth (s : St) {d : Nat} : Core s { s with depth := d } := ⟨rfl, rfl, rfl, rfl, rfl⟩
theorem core_cut (s : St) : Core s (cut s) := core_depth s

theorem core_sweep (s : St) : Core s (sweep s) := by rw [sweep_eq]; exact core_errors s

theorem core_depthCut (cfg : Cfg) (n : Node) (s : St) : Core s (depthCut cfg n s) := by
  unfold depthCut
  simp only
  split <;> exact ⟨rfl, rfl, rfl, rfl, rfl⟩

theorem core_substK (n : String) (b : Bool) (s : St) : Core s (substK n b s) := by
  unfold substK; split <;> exact ⟨rfl, rfl, rfl, rfl, rfl⟩

theorem core_recordPattern (cfg : Cfg) (sy : Sym) (e : Node) (s : St) : Core s (recordPattern cfg sy e s) := by
  obtain ⟨_, _, h⟩ := recordPattern_eq cfg sy e s
  rw [h]; exact ⟨rfl, rfl, rfl, rfl, rfl⟩

theorem syms_insertTop (s : St) (key : String) (id : Nat) : (insertTop s key id).1.syms = s.syms := by
  rcases insertTop_fst s key id with e | ⟨_, _, _, e⟩ <;> rw [e]

theorem used_insertTop (s : St) (key : String) (i : Nat) : (insertTop s key i).1.used = s.used := by
  rcases insertTop_fst s key i with e | ⟨_, _, _, e⟩ <;> rw [e]

/-- what a successful lookup says: the symbol stands in some frame under the name looked up -/
theorem lookup_some {s : St} {name : String} {k : Kind} {sy : Sym} (h : lookup s name k = some sy) :
    ∃ f ∈ s.frames, ∃ i, (name, i) ∈ f ∧ s.syms[i]? = some sy ∧ sy.kind = k := by
  unfold lookup at h
  generalize s.frames = fr at h ⊢
  fun_induction lookup.go s name k fr with
  | case1 => cases h
  | case2 f rest sy' hs hk =>
    cases h
    obtain ⟨i, hg, hs⟩ := Option.bind_eq_some_iff.mp hs
    exact ⟨f, .head _, i, frameGet_mem hg, hs, hk⟩
  | case3 f rest sy' hs hk ih | case4 f rest hs ih =>
    obtain ⟨g, hg, r⟩ := ih h
    exact ⟨g, .tail _ hg, r⟩

theorem newSym_get {s : St} {n : String} {k : Kind} {p : Option Pos} {a i : Nat} {sy : Sym}
    (h : (s.newSym n k p a).1.syms[i]? = some sy) :
    s.syms[i]? = some sy ∨ i = s.syms.length ∧ sy = (s.newSym n k p a).2 := by
  change (s.syms ++ [_])[i]? = _ at h
  rw [List.getElem?_append] at h
  split at h
  · exact .inl h
  · rw [List.getElem?_singleton] at h
    split at h
    · exact .inr ⟨by omega, (Option.some.inj h).symm⟩
    · cases h

theorem renameSym_get {s : St} {i j : Nat} {n : String} {sy' : Sym} (h : (renameSym s i n).syms[j]? = some sy') :
    ∃ sy, s.syms[j]? = some sy ∧ sy'.kind = sy.kind ∧ sy'.id = sy.id ∧ (j ≠ i → sy' = sy) := by
  change (s.syms.modify i _)[j]? = _ at h
  rw [List.getElem?_modify] at h
  cases h0 : s.syms[j]? with
  | none => rw [h0] at h; cases h
  | some sy =>
    rw [h0] at h
    cases h
    exact ⟨sy, rfl, by split <;> rfl, by split <;> rfl, fun hne => if_neg (Ne.symm hne)⟩

/-- symbol ids are indices into the symbol table -/
abbrev Ids (s : St) : Prop := ∀ (i : Nat) (sy : Sym), s.syms[i]? = some sy → sy.id = i

theorem Ids.newSym {s : St} (h : Ids s) (n : String) (k : Kind) (p : Option Pos) (a : Nat) : Ids (s.newSym n k p a).1 :=
  fun i sy hi => (newSym_get hi).elim (h i sy) fun ⟨hl, hs⟩ => by rw [hs, hl]; rfl

theorem Ids.renameSym {s : St} (h : Ids s) (i : Nat) (n : String) : Ids (renameSym s i n) := fun j _ hj =>
  let ⟨sy, g, _, gi, _⟩ := renameSym_get hj
  gi ▸ h j sy g

/-- `i` is a capture-group symbol.  `addGroup` creates one, enters it under one or two keys and may
    rename it; no invariant here restricts the keys or the name of such a symbol. -/
def Cap (s : St) (i : Nat) : Prop := ∃ sy, s.syms[i]? = some sy ∧ sy.kind = .capref

/-- the entry `(key, i)` keys a symbol by its own name, or a capture group: the only entries the
    checker makes -/
def Own (s : St) (key : String) (i : Nat) : Prop := ∃ sy, s.syms[i]? = some sy ∧ (sy.kind = .capref ∨ sy.name = key)

theorem Cap.own {s : St} {i : Nat} (h : Cap s i) (key : String) : Own s key i :=
  let ⟨sy, hs, hk⟩ := h
  ⟨sy, hs, .inl hk⟩

theorem cap_newSym (s : St) (n : String) (p : Option Pos) (a : Nat) : Cap (s.newSym n .capref p a).1 s.syms.length :=
  ⟨_, List.getElem?_concat_length, rfl⟩

theorem own_newSym (s : St) (n : String) (k : Kind) (p : Option Pos) (a : Nat) : Own (s.newSym n k p a).1 n s.syms.length :=
  ⟨_, List.getElem?_concat_length, .inr rfl⟩

theorem Cap.insertOrErr {s : St} {i : Nat} (h : Cap s i) (key : String) (j : Nat) (p : Option Pos) :
    Cap (insertOrErr s key j p) i := by
  have : Cap (insertTop s key j).1 i := by unfold Cap; rw [syms_insertTop]; exact h
  unfold Scope.insertOrErr
  split <;> exact this

theorem Cap.renameSym {s : St} {i : Nat} (h : Cap s i) (j : Nat) (n : String) : Cap (renameSym s j n) i := by
  obtain ⟨sy, hs, hk⟩ := h
  refine ⟨_, by change (s.syms.modify j _)[i]? = _; rw [List.getElem?_modify, hs]; rfl, ?_⟩
  split <;> exact hk

/-- every entry of every scope the state holds — the scope stack, the decorator scopes under
    construction, the captured ones — satisfies `E` -/
structure Entries (E : String × Nat → Prop) (s : St) : Prop where
  frames : ∀ f ∈ s.frames, ∀ e ∈ f, E e
  decos : ∀ f ∈ s.decoScopes, ∀ e ∈ f, E e
  zyg : ∀ z ∈ s.zygotes, ∀ e ∈ z.2, E e

theorem flatten_all {E : String × Nat → Prop} {s : St} (hfl : ∀ i sy, s.sym i = some sy → E (sy.name, sy.id))
    (frames : List Frame) : ∀ into : Frame, (∀ e ∈ into, E e) → ∀ e ∈ flatten s frames into, E e := by
  unfold flatten
  intro into hi
  refine List.foldlRecOn (motive := fun acc : Frame => ∀ e ∈ acc, E e) frames _ hi fun acc ha f _ => ?_
  refine List.foldlRecOn (motive := fun acc : Frame => ∀ e ∈ acc, E e) f _ ha fun acc ha e _ => ?_
  cases hs : s.sym e.2 with
  | none => exact ha
  | some sy =>
    dsimp only
    split
    · exact ha
    · intro x hx
      rcases List.mem_append.mp hx with hx | hx
      · exact ha x hx
      · rw [List.mem_singleton.mp hx]; exact hfl _ sy hs

namespace Entries
variable {E E' : String × Nat → Prop} {s : St}

theorem mono {a b : St} (h : Entries E a) (hf : b.frames = a.frames) (hd : b.decoScopes = a.decoScopes)
    (hz : b.zygotes = a.zygotes) (hE : ∀ e, E e → E' e) : Entries E' b :=
  ⟨hf ▸ fun f hf e he => hE e (h.frames f hf e he), hd ▸ fun f hf e he => hE e (h.decos f hf e he),
   hz ▸ fun z hz e he => hE e (h.zyg z hz e he)⟩

theorem enter {f : Frame} {r : List Frame} {e : String × Nat} (hf : s.frames = f :: r) (he : E e) (h : Entries E s) :
    Entries E { s with frames := (f ++ [e]) :: r } := by
  have hs := hf ▸ h.frames
  refine ⟨fun g hg x hx => ?_, h.decos, h.zyg⟩
  rcases List.mem_cons.mp hg with rfl | hg
  · rcases List.mem_append.mp hx with hx | hx
    · exact hs _ (.head _) x hx
    · rw [List.mem_singleton.mp hx]; exact he
  · exact hs g (.tail _ hg) x hx

theorem push {f : Frame} (hf : ∀ e ∈ f, E e) (h : Entries E s) : Entries E (push s f) :=
  ⟨fun g hg => (List.mem_cons.mp hg).elim (· ▸ hf) (h.frames g), h.decos, h.zyg⟩

theorem pop (h : Entries E s) : Entries E (pop s) := ⟨fun f hf => h.frames f (List.mem_of_mem_tail hf), h.decos, h.zyg⟩

theorem openDecoScope (h : Entries E s) : Entries E (openDecoScope s) :=
  ⟨h.frames, fun f hf => (List.mem_cons.mp hf).elim (· ▸ nofun) (h.decos f), h.zyg⟩

theorem capture {ds f : Frame} {r : List Frame} (hd : s.decoScopes = ds :: r) (hf : ∀ e ∈ f, E e) (h : Entries E s) :
    Entries E { s with decoScopes := f :: r } :=
  have hs := hd ▸ h.decos
  ⟨h.frames, fun g hg => (List.mem_cons.mp hg).elim (· ▸ hf) fun hg => hs g (.tail _ hg), h.zyg⟩

theorem close {ds : Frame} {r : List Frame} (i : Nat) (hd : s.decoScopes = ds :: r) (h : Entries E s) :
    Entries E { s with decoScopes := r, zygotes := (i, ds) :: s.zygotes } :=
  have hs := hd ▸ h.decos
  ⟨h.frames, fun f hf => hs f (.tail _ hf), fun z hz => (List.mem_cons.mp hz).elim (· ▸ hs ds (.head _)) (h.zyg z)⟩

end Entries

/-- What a state predicate has to be kept by in order to be kept by every visit: the changes the
    walk makes to scopes, symbols and use marks.  `D` is what is known of the names declared, `M` of
    the names looked up as identifier or decorator. -/
structure Kept (D M : String → Prop) (I : St → Prop) : Prop where
  core : ∀ {a b}, I a → Core a b → I b
  /-- `fr := []` is the fresh scope of a block (`flatten s [] [] = []` by `rfl`) -/
  push : ∀ fr {s}, I s → I (push s (flatten s fr []))
  pop : ∀ {s}, I s → I (pop s)
  newSym : ∀ {n k} p a {s}, (k ≠ .capref → D n) → I s → I (s.newSym n k p a).1
  enter : ∀ {s f r key i}, s.frames = f :: r → Own s key i → I s → I { s with frames := (f ++ [(key, i)]) :: r }
  rename : ∀ n {i s}, Cap s i → I s → I (renameSym s i n)
  used : ∀ {name k sy s}, lookup s name k = some sy → (k ≠ .capref → M name) → I s → I (markUsed s sy.id)
  capture : ∀ {s ds r}, s.decoScopes = ds :: r → I s → I { s with decoScopes := flatten s s.frames [] :: r }
  openDeco : ∀ {s}, I s → I (openDecoScope s)
  close : ∀ i {s ds r}, s.decoScopes = ds :: r → I s → I { s with decoScopes := r, zygotes := (i, ds) :: s.zygotes }

namespace Kept
variable {cfg : Cfg} {D M : String → Prop} {I : St → Prop} (K : Kept D M I)
include K

theorem leave {k : St → St} (hk : ∀ s, I s → I (k s)) {s : St} (h : I s) : I (leave s k) := by
  cases ht : s.tooDeep
  · rw [leave_below k ht]; exact K.core (hk s h) (core_cut _)
  · rw [leave_deep k ht]; exact h

theorem insertTop {key : String} {i : Nat} {s : St} (o : Own s key i) (h : I s) : I (insertTop s key i).1 := by
  rcases insertTop_fst s key i with e | ⟨f, r, hf, e⟩ <;> rw [e]
  · exact h
  · exact K.enter hf o h

theorem declared {n : String} {k : Kind} {p : Option Pos} {s : St} (hd : D n) (h : I s) :
    I (Scope.insertTop (s.newSym n k p).1 n (s.newSym n k p).2.id).1 :=
  K.insertTop (own_newSym s n k p 0) (K.newSym p 0 (fun _ => hd) h)

theorem insertOrErr (key : String) (p : Option Pos) {i : Nat} {s : St} (c : Cap s i) (h : I s) : I (insertOrErr s key i p) := by
  unfold Scope.insertOrErr
  split
  · exact K.core (K.insertTop (c.own key) h) (core_err _)
  · exact K.insertTop (c.own key) h

theorem addGroup (p : Option Pos) (e : String × Nat) {s : St} (h : I s) : I (addGroup p s e) := by
  have c := cap_newSym s (toString e.2) p e.2
  have h2 := K.insertOrErr (toString e.2) p c (K.newSym p e.2 (fun hk => absurd rfl hk) h)
  have c2 := c.insertOrErr (toString e.2) s.syms.length p
  unfold Scope.addGroup
  split
  · exact K.insertOrErr e.1 p (c2.renameSym _ _) (K.rename e.1 c2 h2)
  · exact h2

theorem checkRegex (cfg : Cfg) (pat : Bytes) (p : Option Pos) {s : St} (h : I s) : I (checkRegex cfg s pat p) := by
  -- too long; does not parse; capture groups switched off; a symbol for every capture group
  fun_cases Scope.checkRegex cfg s pat p with
  | case1 | case2 => exact K.core h (core_err s)
  | case3 => exact h
  | case4 => exact List.foldlRecOn _ _ h fun _ h e _ => K.addGroup p e h

theorem evalCheck (cfg : Cfg) (e : Node) (p : Option Pos) {s : St} (h : I s) : I (evalCheck cfg e p s) := by
  have h' : I { s with errors := s.errors ++ (evalPattern cfg.fmtFloat s e).2 } := K.core h (core_errors s)
  unfold Scope.evalCheck
  simp only
  split
  · exact h'
  · exact K.checkRegex cfg _ p h'

theorem doNext (p : Pos) {s : St} (h : I s) : I (doNext p s) := by
  -- outside a decorator definition; a second `next`; the scope is captured
  fun_cases Scope.doNext p s with
  | case1 | case2 => exact K.core h (core_err s)
  | case3 ds rest hd => exact K.capture hd h

theorem closeDeco (sy : Sym) (w : Option Pos) {s : St} (h : I s) : I (closeDeco sy w s) := by
  unfold Scope.closeDeco
  cases hd : s.decoScopes with
  | nil => exact h
  | cons ds rest =>
    dsimp only
    split
    · exact K.close sy.id (s := s.err _ w) hd (K.core h (core_err s))
    · exact K.close sy.id hd h

theorem closed : Closed cfg D M fun s s' => I s → I s' where
  refl _ h := h
  trans h1 h2 h := h2 (h1 h)
  guarded n k hk s h := by
    rcases guarded_cases cfg n k s with e | e <;> rw [e]
    · exact K.core h (core_depthCut cfg n s)
    · exact hk _ (K.core h (core_depth s))
  leave hk _ := K.leave hk
  err _ _ s h := K.core h (core_err s)
  cut s h := K.core h (core_cut s)
  block hw _ h := K.leave (fun y hy => K.pop (K.core hy (core_sweep y))) (hw _ (K.push [] h))
  declare k p c dp ok hd hok s h := by
    rcases declare_cases _ k p c dp ok s with e | e <;> rw [e]
    · exact K.core (K.core (K.declared hd h) (core_err _)) (core_cut _)
    · exact hok _ _ (K.declared hd h)
  used _ := K.used
  decorated hwb _ fr h := K.leave (fun _ => K.pop) (hwb _ (K.push [fr] h))
  substK n b s h := K.core h (core_substK n b s)
  evalCheck e p _ := K.evalCheck cfg e p
  recordPattern sy e s h := K.core h (core_recordPattern cfg sy e s)
  doNext p _ := K.doNext p
  decoBody sy wp hw _ h := K.leave (fun _ => K.closeDeco sy wp) (hw _ (K.openDeco h))

theorem stable : Stable I :=
  ⟨fun s _ h => K.core h (core_depth s), fun _ => K.push [], fun n b s h => K.core h (core_substK n b s)⟩

end Kept

end MtailVerif.Scope
