import MtailVerif.Model.Key
/-! Injectivity of the label-key encoding when it escapes the escape byte and the separator. -/
namespace MtailVerif.Key

/-- per-byte view of "escape `esc`, then escape `sep`" -/
def escB (esc sep b : UInt8) : Bytes :=
  if b = esc then [esc, esc] else if b = sep then [esc, sep] else [b]

def goodReps (esc sep : UInt8) : List (Bytes × Bytes) :=
  [([esc], [esc, esc]), ([sep], [esc, sep])]

theorem escapeWith_good (esc sep : UInt8) (h : esc ≠ sep) (l : Bytes) :
    escapeWith (goodReps esc sep) l = l.flatMap (escB esc sep) := by
  simp only [escapeWith, goodReps, List.foldl, replaceAll, replaceByte, List.flatMap_assoc]
  congr 1; funext c
  by_cases h1 : c = esc
  · subst h1; simp [escB, h]
  · by_cases h2 : c = sep
    · subst h2; simp [escB, h1]
    · simp [escB, h1, h2]

/-- decode one label: `true` = previous byte was the escape byte -/
def dec1 (esc sep : UInt8) : Bool → Bytes → Bytes → Option (Bytes × Bytes)
  | _, _, [] => none
  | true, acc, c :: cs => dec1 esc sep false (acc ++ [c]) cs
  | false, acc, c :: cs =>
    if c = esc then dec1 esc sep true acc cs
    else if c = sep then some (acc, cs)
    else dec1 esc sep false (acc ++ [c]) cs

theorem dec1_escaped (esc sep : UInt8) (h : esc ≠ sep) (l acc : Bytes) {rest : Bytes} :
    dec1 esc sep false acc (l.flatMap (escB esc sep) ++ sep :: rest) = some (acc ++ l, rest) := by
  have h' : sep ≠ esc := fun e => h e.symm
  induction l generalizing acc with
  | nil => simp [dec1, h']
  | cons c cs ih =>
    by_cases h1 : c = esc
    · subst h1; simp [escB, dec1, ih]
    · by_cases h2 : c = sep
      · subst h2; simp [escB, dec1, h1, ih]
      · simp [escB, dec1, h1, h2, ih]

/-- the key determines the tuple, whatever the arities: decode the first label of both sides, go on -/
theorem encodeWith_good_injective_any (esc sep : UInt8) (h : esc ≠ sep) (a b : List Bytes)
    (he : encodeWith (goodReps esc sep) [sep] a = encodeWith (goodReps esc sep) [sep] b) : a = b := by
  induction a generalizing b with
  | nil =>
    cases b with
    | nil => rfl
    | cons l ls => simp [encodeWith] at he
  | cons l ls ih =>
    cases b with
    | nil => simp [encodeWith] at he
    | cons l' ls' =>
      simp only [encodeWith, escapeWith_good esc sep h, List.append_assoc, List.singleton_append] at he
      have := (dec1_escaped esc sep h l []).symm.trans ((congrArg _ he).trans (dec1_escaped esc sep h l' []))
      simp only [List.nil_append, Option.some.injEq, Prod.mk.injEq] at this
      rw [this.1, ih ls' this.2]

/-- for the replacement pairs and the terminator of the current source (`Generated.Key`): escape `\\`,
    then `-`, terminate with `-` (`C08.key_shape` states this shape as an obligation of its own) -/
theorem encode_inj (a b : List Bytes) (h : encode a = encode b) : a = b :=
  encodeWith_good_injective_any 92 45 (by decide) a b h

end MtailVerif.Key
