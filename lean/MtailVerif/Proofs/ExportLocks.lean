import MtailVerif.Model.ExportLocks
/-! Soundness of the syntactic check: a skeleton accepted by `safe` releases the metric's read
    lock and leaves no emitter goroutine mid-channel, for every number of label sets and
    every fault plan. -/
namespace MtailVerif.ExportLocks

/-- the emitter is in the phase the abstract channel state names -/
inductive ChanRel : Chan → Emitter → Prop
  | none : ChanRel .none .none
  | running (k : Nat) : ChanRel .open (.running k)
  | done : ChanRel .closed .done

theorem ChanRel.running_of_open {e : Emitter} (h : ChanRel .open e) : ∃ k, e = .running k := by
  cases h; exact ⟨_, rfl⟩

/-- the abstract state describes the concrete one: no fault so far, one read lock iff `held`, the
    emitter in the phase `ch` names -/
structure Rel (s : A) (c : C) : Prop where
  noFault : c.underflow = false
  readers : c.readers = if s.held then 1 else 0
  chan : ChanRel s.ch c.em

/-- what `check lp prog s = some r` promises of an outcome of `prog`: it falls through only in a
    state that `r` describes, says `continue` only in one that the loop head `lp` describes, and
    returns only with everything released -/
def Post (lp : Option A) (r : Option A) : Outcome → Prop
  | .fall c' => ∃ s', r = some s' ∧ Rel s' c'
  | .returned c' => Good c'
  | .continued c' => ∃ l, lp = some l ∧ Rel l c'

theorem check_cons (lp : Option A) (st : Stmt) (rest : List Stmt) (s : A) :
    check lp (st :: rest) s =
      match checkS lp st s with
      | none => none
      | some none => some none
      | some (some s') => check lp rest s' := by
  rw [check]; rfl

theorem Rel.good {s : A} {c : C} (h : Rel s c) (hh : s.held = false) (hne : s.ch ≠ .open) : Good c := by
  refine ⟨by simpa [hh] using h.readers, ?_, h.noFault⟩
  obtain ⟨sh, sc⟩ := s
  obtain ⟨r, em, u⟩ := c
  cases h.chan with
  | running => exact absurd rfl hne
  | none | done => rfl

/-- what a successful `checkS` on an `if`/loop body tells us: the body either never falls through or
    comes back to the state `s` it started in, and the statement leaves in state `t` -/
theorem body_ok (x : Option (Option A)) (s : A) {t : A} {k : Option (Option A)}
    (h : (match x with
      | none => none
      | some none => some (some t)
      | some (some s') => if s' = s then some (some t) else none) = k) (hk : k ≠ none) :
    ∃ rb, x = some rb ∧ (rb = none ∨ rb = some s) ∧ k = some (some t) := by
  cases x with
  | none => exact absurd h.symm hk
  | some rb =>
    cases rb with
    | none => exact ⟨none, rfl, Or.inl rfl, h.symm⟩
    | some s' =>
      by_cases he : s' = s
      · exact ⟨some s', rfl, Or.inr (he ▸ rfl), by rw [← h]; exact if_pos he⟩
      · exact absurd ((if_neg he).symm.trans h).symm hk

/-- a body that `body_ok` accepts and that falls through is back in the state it started in -/
theorem Post.fall_back {lp rb : Option A} {s : A} {c : C} (hp : Post lp rb (.fall c))
    (hrb : rb = none ∨ rb = some s) : Rel s c := by
  obtain ⟨s', hs', hrel⟩ := hp
  rcases hrb with rfl | rfl
  · cases hs'
  · cases hs'; exact hrel

/-- the statements that neither leave nor have a body -/
def Stmt.simple : Stmt → Bool
  | .ret | .cont | .ifs _ | .loop _ => false
  | _ => true

/-- one such statement, accepted in `s`: it goes on, the concrete step leads to a state that the
    abstract successor describes, and execution continues with the rest from there -/
theorem simple_step (n : Nat) {lp : Option A} {st : Stmt} (hs : st.simple = true) {s : A} {c : C} (hrel : Rel s c)
    {y : Option A} (h : checkS lp st s = some y) :
    ∃ s' c', y = some s' ∧ Rel s' c' ∧ ∀ f rest ch, exec n (f + 1) (st :: rest) c ch = exec n f rest c' ch := by
  obtain ⟨hu, hr, hc⟩ := hrel
  cases st <;> first | cases hs | skip
  all_goals simp only [checkS] at h
  case other => cases h; exact ⟨_, c, rfl, ⟨hu, hr, hc⟩, fun _ _ _ => rfl⟩
  case rlock =>
    obtain ⟨hh, h⟩ := Option.ite_none_left_eq_some.mp h
    cases h
    exact ⟨_, { c with readers := c.readers + 1 }, rfl, ⟨hu, by simp [hr, hh], hc⟩, fun _ _ _ => rfl⟩
  case runlock =>
    obtain ⟨hh, h⟩ := Option.ite_none_right_eq_some.mp h
    cases h
    have hr1 : c.readers = 1 := by simpa [hh] using hr
    exact ⟨_, { c with readers := c.readers - 1 }, rfl, ⟨hu, by simp [hr1], hc⟩, fun _ _ _ => by simp [exec, hr1]⟩
  case spawn =>
    obtain ⟨-, h⟩ := Option.ite_none_right_eq_some.mp h
    cases h
    exact ⟨_, { c with em := .running n }, rfl, ⟨hu, hr, .running n⟩, fun _ _ _ => rfl⟩
  case drain =>
    obtain ⟨-, h⟩ := Option.ite_none_right_eq_some.mp h
    cases h
    exact ⟨_, { c with em := .done }, rfl, ⟨hu, hr, .done⟩, fun _ _ _ => rfl⟩
  -- both are refused while the lock is held and do nothing otherwise
  case relock | wait =>
    obtain ⟨hh, h⟩ := Option.ite_none_left_eq_some.mp h
    cases h
    have hr0 : c.readers = 0 := by simpa [hh] using hr
    exact ⟨_, c, rfl, ⟨hu, hr, hc⟩, fun _ _ _ => by simp [exec, hr0]⟩

/-- `x` (the body of an `if`, a receive loop) and then, if `x` falls through, `k`: what `x` promises
    of its ways out and `k` of its own is promised of the whole.  The `match` is `exec`'s. -/
theorem Post.seq {lp rb r : Option A} {x : Option (Outcome × List Bool)} {k : C → List Bool → Option (Outcome × List Bool)}
    {o : Outcome} {ch' : List Bool}
    (hex : (match x with | some (.fall c', ch'') => k c' ch'' | r => r) = some (o, ch'))
    (hx : ∀ o1 ch1, x = some (o1, ch1) → Post lp rb o1)
    (hk : ∀ c1 ch1, Post lp rb (.fall c1) → k c1 ch1 = some (o, ch') → Post lp r o) : Post lp r o := by
  match x, hex, hx with
  | some (.fall c1, ch1), hex, hx => exact hk c1 ch1 (hx _ _ rfl) hex
  | some (.returned c1, ch1), hex, hx => cases hex; exact hx _ _ rfl
  | some (.continued c1, ch1), hex, hx => cases hex; exact hx _ _ rfl

/-- for a program, and for the receive loop as a whole: it is left with the channel closed, or by `return` -/
theorem sound (n : Nat) (fuel : Nat) :
    (∀ {prog c ch lp s r o ch'}, Rel s c → check lp prog s = some r →
        exec n fuel prog c ch = some (o, ch') → Post lp r o) ∧
    (∀ {body c ch s rb o ch'}, Rel s c → s.ch = .open → check (some s) body s = some rb →
        (rb = none ∨ rb = some s) → execLoop n fuel body c ch = some (o, ch') →
        Post none (some { s with ch := .closed }) o) := by
  induction fuel with
  | zero => exact ⟨fun _ _ h => (nomatch h), fun _ _ _ _ h => (nomatch h)⟩
  | succ f ih =>
    obtain ⟨ih1, ih2⟩ := ih
    constructor
    · intro prog c ch lp s r o ch' hrel hchk hex
      cases prog with
      | nil => cases hex; exact ⟨s, (Option.some.inj hchk).symm, hrel⟩
      | cons st rest =>
        rw [check_cons] at hchk
        have hne : checkS lp st s ≠ none := fun e => by rw [e] at hchk; cases hchk
        obtain ⟨y, hy⟩ := Option.ne_none_iff_exists'.mp hne
        by_cases hs : st.simple = true
        · obtain ⟨s', c', rfl, hrel', hstep⟩ := simple_step n hs hrel hy
          rw [hy] at hchk
          rw [hstep] at hex
          exact ih1 hrel' hchk hex
        cases st with
        | rlock | runlock | spawn | drain | other | relock | wait => exact absurd rfl hs
        -- the two exits are refused unless their guard `hh` holds
        | ret =>
          obtain ⟨hh, -⟩ := Option.ite_none_right_eq_some.mp hy
          cases hex
          exact hrel.good hh.1 hh.2
        | cont =>
          cases lp with
          | none => cases hy
          | some l =>
            obtain ⟨hh, -⟩ := Option.ite_none_right_eq_some.mp hy
            cases hex
            exact ⟨l, rfl, hh ▸ hrel⟩
        | ifs body =>
          obtain ⟨rb, hb, hrb, hk⟩ := body_ok (check lp body s) s (by simp only [checkS]; rfl) hne
          rw [hk] at hchk
          simp only [exec] at hex
          -- the plan says whether the `if` is taken
          rcases ch with _ | ⟨_ | _, chs⟩
          · exact ih1 hrel hchk hex
          · exact ih1 hrel hchk hex
          · exact Post.seq hex (fun _ _ => ih1 hrel hb) fun _ _ hp => ih1 (hp.fall_back hrb) hchk
        | loop body =>
          by_cases hh : s.ch = .open ∧ lp = none
          · obtain ⟨hopen, rfl⟩ := hh
            obtain ⟨rb, hb, hrb, hk⟩ := body_ok (check (some s) body s) s (t := { s with ch := .closed })
              (by simp only [checkS, hopen, and_self, if_true]; rfl) hne
            rw [hk] at hchk
            simp only [exec] at hex
            exact Post.seq hex (fun _ _ => ih2 hrel hopen hb hrb) fun _ _ hp => ih1 (hp.fall_back (.inr rfl)) hchk
          · simp [checkS, hh] at hchk
    · intro body c ch s rb o ch' hrel hopen hb hrb hex
      obtain ⟨k, hk⟩ := (hopen ▸ hrel.chan : ChanRel .open c.em).running_of_open
      simp only [execLoop, hk] at hex
      cases k with
      | zero => cases hex; exact ⟨_, rfl, hrel.noFault, hrel.readers, .done⟩
      | succ k =>
        -- one label set is taken; the body falls through or says `continue`, and the loop goes round, or it returns
        have hrel1 : Rel s { c with em := .running k } := ⟨hrel.noFault, hrel.readers, hopen ▸ .running k⟩
        cases hbody : exec n f body { c with em := .running k } ch with
        | none => simp [hbody] at hex
        | some p =>
          obtain ⟨o1, ch1⟩ := p
          have hp := ih1 hrel1 hb hbody
          simp only [hbody] at hex
          cases o1 with
          | fall c1 => exact ih2 (hp.fall_back hrb) hopen hb hrb hex
          | continued c1 =>
            obtain ⟨l, ⟨⟩, hrel'⟩ := hp
            exact ih2 hrel' hopen hb hrb hex
          | returned c1 => cases hex; exact hp

theorem safe_sound (prog : List Stmt) (hs : safe prog = true) (n fuel : Nat) (plan : List Bool)
    (o : Outcome) (rest : List Bool)
    (hex : exec n fuel prog ⟨0, .none, false⟩ plan = some (o, rest)) : GoodOutcome o := by
  unfold safe at hs
  cases hc : check none prog ⟨false, .none⟩ with
  | none => simp [hc] at hs
  | some r =>
    have hrel : Rel ⟨false, .none⟩ (⟨0, .none, false⟩ : C) := ⟨rfl, rfl, .none⟩
    have hp := (sound n fuel).1 hrel hc hex
    cases o with
    | fall c =>
      obtain ⟨s', hs', hrel'⟩ := hp
      subst hs'
      simp only [hc, Bool.and_eq_true, decide_eq_true_eq] at hs
      exact hrel'.good hs.1 hs.2
    | returned c => exact hp
    | continued c =>
      obtain ⟨l, hl, _⟩ := hp
      simp at hl

/-- what `deadlineBeforeWrites` says: whichever call writes (is neither a dial, a close nor a
    deadline setting), a call that sets a write deadline stands before it in the list -/
theorem deadlineBeforeWrites_sound (b : Bool) (pre : List String) (w : String) (post : List String)
    (h : deadlineBeforeWrites b (pre ++ w :: post) = true) (hw : connQuiet w = false) (hwb : connBounds w = false) :
    b = true ∨ ∃ d ∈ pre, connBounds d = true := by
  induction pre generalizing b with
  | nil =>
    simp only [List.nil_append, deadlineBeforeWrites, hwb, hw, Bool.false_eq_true, if_false, Bool.and_eq_true] at h
    exact .inl h.1
  | cons c pre ih =>
    rw [List.cons_append, deadlineBeforeWrites] at h
    by_cases hc : connBounds c = true
    · exact .inr ⟨c, List.mem_cons_self, hc⟩
    · rw [if_neg hc] at h
      -- a quiet call or a writing one: the calls after it are checked with the same `b`
      have h' : deadlineBeforeWrites b (pre ++ w :: post) = true := by
        split at h
        · exact h
        · exact (Bool.and_eq_true_iff.mp h).2
      exact (ih b h').imp_right fun ⟨d, hd, hdb⟩ => ⟨d, List.mem_cons_of_mem _ hd, hdb⟩

end MtailVerif.ExportLocks
