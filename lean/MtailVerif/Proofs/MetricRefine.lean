import MtailVerif.Proofs.Metric
/-! One-step refinement for every operation of the C09 alphabet: in each case both steps are computed,
    and they give the same output and states related by `abs`. -/
namespace MtailVerif.Metric
variable {V : Type}

/-- the goal of `step_refines`, once both steps are computed to `(m', o)` and `(s', o)` -/
theorem refines_of {m : Metric V} (m' : Metric V) (o : Out V) {s' : Spec V} {x : Metric V × Out V} {y : Spec V × Out V}
    (hx : x = (m', o)) (hy : y = (s', o)) (hi : Inv m') (ha : abs m' = s') (hk : m'.nkeys = m.nkeys) :
    Inv x.1 ∧ abs x.1 = y.1 ∧ x.2 = y.2 ∧ x.1.nkeys = m.nkeys := by
  subst hx hy; exact ⟨hi, ha, rfl, hk⟩

section
variable (hinj : ∀ a b : List Bytes, Key.encode a = Key.encode b → a = b)
include hinj

theorem step_refines (mk : V) (m : Metric V) (hi : Inv m) (op : Op V) :
    Inv (step mk m op).1 ∧
    abs (step mk m op).1 = (Spec.step m.nkeys mk (abs m) op).1 ∧
    (step mk m op).2 = (Spec.step m.nkeys mk (abs m) op).2 ∧
    (step mk m op).1.nkeys = m.nkeys := by
  have herr : ∀ {x : Metric V × Out V} {y : Spec V × Out V}, x = (m, .err .arity) → y = (abs m, .err .arity) →
      Inv x.1 ∧ abs x.1 = y.1 ∧ x.2 = y.2 ∧ x.1.nkeys = m.nkeys := fun hx hy => refines_of _ _ hx hy hi rfl rfl
  cases op with
  | get l =>
    by_cases hl : l.length = m.nkeys
    · cases hf : m.lvs.find? (·.labels = l) with
      | some lv =>
        exact refines_of m .ok (by simp [step, getDatum_found hinj hi mk hl hf])
          (by simp [Spec.step, hl, findS_abs, hf]) hi rfl rfl
      | none =>
        exact refines_of (push m l mk) .ok (s' := abs m ++ [⟨l, mk, 0⟩])
          (by simp [step, getDatum_new hinj hi mk hl hf])
          (by simp [Spec.step, hl, findS_abs, hf]) (inv_push hi mk hl hf) (abs_push ..) rfl
    · exact herr (by simp [step, getDatum, hl]) (by simp [Spec.step, hl])
  | set l f =>
    by_cases hl : l.length = m.nkeys
    · cases hf : m.lvs.find? (·.labels = l) with
      | some lv =>
        exact refines_of { m with lvs := modP (·.labels = l) (fun lv => { lv with value := f lv.value }) m.lvs } .ok
          (by simp only [step, getDatum_found hinj hi mk hl hf, updateDatum, mapId_found hi hf])
          (by simp [Spec.step, hl, findS_abs, hf]) (inv_modP hi (fun _ => rfl) (fun _ => rfl))
          (modS_abs l (fun e => { e with value := f e.value }) (fun _ => rfl) m) rfl
      | none =>
        exact refines_of (push m l (f mk)) .ok (s' := abs m ++ [⟨l, f mk, 0⟩])
          (by simp [step, getDatum_new hinj hi mk hl hf, updateDatum_push hi])
          (by simp [Spec.step, hl, findS_abs, hf]) (inv_push hi _ hl hf) (abs_push ..) rfl
    · exact herr (by simp [step, getDatum, hl]) (by simp [Spec.step, hl])
  | remove l =>
    by_cases hl : l.length = m.nkeys
    · exact refines_of _ .ok (by simp only [step, removeDatum_eq hinj hi hl]) (by simp [Spec.step, hl])
        (inv_eraseP hi _) (eraseS_abs l m) rfl
    · exact herr (by simp [step, removeDatum, hl]) (by simp [Spec.step, hl])
  | expire x l =>
    by_cases hl : l.length = m.nkeys
    · cases hf : m.lvs.find? (·.labels = l) with
      | some lv =>
        exact refines_of { m with lvs := modP (·.labels = l) (fun lv => { lv with expiry := x }) m.lvs } .ok
          (by simp only [step, expireDatum_found hinj hi x hl hf])
          (by simp [Spec.step, hl, findS_abs, hf]) (inv_modP hi (fun _ => rfl) (fun _ => rfl))
          (modS_abs l (fun e => { e with expiry := x }) (fun _ => rfl) m) rfl
      | none =>
        exact refines_of m (.err .noDatum) (by simp only [step, expireDatum_absent hinj hi x hl hf])
          (by simp [Spec.step, hl, findS_abs, hf]) hi rfl rfl
    · exact herr (by simp [step, expireDatum, hl]) (by simp [Spec.step, hl])
  | find l =>
    refine refines_of m _ rfl ?_ hi rfl rfl
    simp only [Spec.step, find_eq hinj hi, findS_abs]
    cases m.lvs.find? (·.labels = l) <;> rfl
  | emit => exact refines_of m _ rfl (by simp [Spec.step, emit, abs_eq, toEntry]) hi rfl rfl

theorem runOps_refines (mk : V) (ops : List (Op V)) {m : Metric V} (hi : Inv m) :
    Inv (runOps mk m ops) ∧ abs (runOps mk m ops) = Spec.runOps m.nkeys mk (abs m) ops ∧
    (runOps mk m ops).nkeys = m.nkeys := by
  induction ops generalizing m with
  | nil => exact ⟨hi, rfl, rfl⟩
  | cons op ops ih =>
    obtain ⟨h1, h2, -, h4⟩ := step_refines hinj mk m hi op
    simpa only [runOps, Spec.runOps, h4, h2] using ih h1
end

theorem inv_init (n : Nat) : Inv ({ nkeys := n } : Metric V) :=
  ⟨rfl, by simp, by simp, by simp, by simp⟩

end MtailVerif.Metric
