import MtailVerif.Model.VM
/-! What one instruction does to the thread it is given: a map over the thread of the result
    (`Res.mapT`) commutes with `stepCore`, construct by construct.  At the end, `run` one
    instruction at a time. -/
namespace MtailVerif.VM
open MtailVerif

@[reducible] def Res.mapT (h : Thread → Thread) : Res → Res
  | .next t st => .next (h t) st
  | r => r

theorem P.andThen_mapT {α : Type} {h : Thread → Thread} {pp : P α} {st : MStore} {k k' : α → List Val → Res}
    (H : ∀ a r, k' a r = (k a r).mapT h) : pp.andThen st k' = (pp.andThen st k).mapT h := by
  cases pp <;> first | exact H _ _ | rfl

/-- `u` is the thread of the other run (`u = t` when there is one run): it has the same `dead`
    list, and the continuations get `u` resp. `t` with the same new stack and `dead` list -/
theorem writeDatum_mapT {h : Thread → Thread} {t u : Thread} {st : MStore} {stack : List Val}
    {f : Datum → Option Datum} {k k' : Thread → MStore → Datum → Res}
    (H : ∀ rest dead' st' d, k' { u with stack := rest, dead := dead' } st' d =
      (k { t with stack := rest, dead := dead' } st' d).mapT h) (hd : u.dead = t.dead := by rfl) :
    writeDatum u st stack f k' = (writeDatum t st stack f k).mapT h := by
  unfold writeDatum
  rw [hd]
  -- both sides now branch on the same terms: at a leaf both fault, or both call their continuation
  repeat' split
  all_goals first | exact H _ _ _ _ | rfl

theorem jumpTo_mapT {h : Thread → Thread} {t u : Thread} {st : MStore} {stack : List Val} {i : Instr}
    (H : ∀ n, ({ u with pc := n, stack := stack } : Thread) = h { t with pc := n, stack := stack }) :
    jumpTo u st stack i = (jumpTo t st stack i).mapT h := by
  unfold jumpTo
  -- both sides branch on the operand alone: at a leaf both fault, or both jump
  repeat' split
  all_goals first | exact congrArg (Res.next · st) (H _) | rfl

/-- `incBy` also reads the time register, for the stamp -/
theorem incBy_mapT {h : Thread → Thread} {t u : Thread} {st : MStore} {d : Int} {stack : List Val}
    (H : ∀ x rest dead', ({ u with stack := .i64 x :: rest, dead := dead' } : Thread) =
      h { t with stack := .i64 x :: rest, dead := dead' })
    (hd : u.dead = t.dead := by rfl) (ht : u.time = t.time := by rfl) :
    incBy u st d stack = (incBy t st d stack).mapT h := by
  unfold incBy
  rw [ht]
  refine writeDatum_mapT (fun rest dead' st' d' => ?_) hd
  unfold afterInc
  split
  · exact congrArg (Res.next · st') (H _ _ _)
  · rfl

/-- No instruction other than `Settime` (and `Strptime`) writes the time register.

    `fun_cases` leaves one goal per leaf of `stepCore`, with the leaf in place of the call on both
    sides.  A leaf is a result without a thread, or `.next { t with … } st`, or one of `P.andThen`,
    `writeDatum`, `incBy`, `jumpTo`, which hand the thread on (`P.andThen` and `writeDatum` to a
    continuation that may branch again).  The map commutes with each of these, so the loop
    descends with one alternative per construct until both sides are the same term: `rfl` at a
    result, the four lemmas above at the helpers, `split` at a `match` or `if` inside a
    continuation; `Settime`'s leaf is excluded by `h`.  `with_reducible` keeps a failing attempt
    from unfolding the model (`Res.mapT` is reducible, which is all `rfl` needs); `split` stands
    before the lemmas that seldom apply because a failing `refine` is dearer than a failing `split`. -/
theorem stepCore_time_frame (o : Oracle) (p : Prog) (inp : Input) (i : Instr) (t : Thread) (st : MStore)
    (h : i.op ≠ .settime) :
    stepCore o p inp i t st = (stepCore o p inp i t st).mapT fun t' => { t' with time := t.time } := by
  fun_cases stepCore o p inp i t st
  all_goals repeat' first
    | with_reducible exact rfl
    | with_reducible refine P.andThen_mapT fun _ _ => ?_
    | split
    | with_reducible refine jumpTo_mapT fun _ => rfl
    | with_reducible refine incBy_mapT fun _ _ _ => rfl
    | with_reducible refine writeDatum_mapT fun _ _ _ _ => ?_
    | contradiction

/-- the same, read off a step that goes on -/
theorem stepCore_next_time {o : Oracle} {p : Prog} {inp : Input} {i : Instr} {t t' : Thread} {st st' : MStore}
    (h : i.op ≠ .settime) (hs : stepCore o p inp i t st = .next t' st') : t'.time = t.time := by
  have := stepCore_time_frame o p inp i t st h
  rw [hs] at this
  exact (congrArg Thread.time (Res.next.inj this).1 :)

section
variable {o : Oracle} {p : Prog} {inp : Input} {fuel : Nat} {t : Thread} {st : MStore} {memo : Memo}

theorem run_done (hi : p.code[t.pc]? = none) : run o p inp (fuel + 1) t st memo = ⟨.done, st, memo⟩ := by
  rw [run, hi]

/-- the fetch resolved: with `hs : step … = (r, memo')` for a known `r`, `rw [run_step hi, hs]` computes the rest -/
theorem run_step {i : Instr} (hi : p.code[t.pc]? = some i) :
    run o p inp (fuel + 1) t st memo =
      match step o p inp i t st memo with
      | (.next t' st', memo') => run o p inp fuel t' st' memo'
      | (.stop st', memo') => ⟨.stopped, st', memo'⟩
      | (.err e st', memo') => ⟨.err e, st', memo'⟩
      | (.fault f st', memo') => ⟨.fault f, st', memo'⟩ := by
  rw [run, hi]
  rfl  -- the `match` of the statement is a matcher of its own, the model's only after unfolding

theorem run_next {i : Instr} {t' : Thread} {st' : MStore} {memo' : Memo} (hi : p.code[t.pc]? = some i)
    (hs : step o p inp i t st memo = (.next t' st', memo')) :
    run o p inp (fuel + 1) t st memo = run o p inp fuel t' st' memo' := by
  rw [run_step hi, hs]

end

end MtailVerif.VM
