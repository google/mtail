import MtailVerif.Proofs.VMFrame
import MtailVerif.Proofs.Assoc
/-! The strptime memo is a transparent cache: as long as every entry is what `time.Parse` returns for
    its (layout, value) key, the result of a line does not depend on what the memo holds. -/
namespace MtailVerif.VM
open MtailVerif

/-- every memo entry is what the library returns for its key -/
def Coherent (o : Oracle) (memo : Memo) : Prop :=
  ∀ k v, (k, v) ∈ memo → o.timeParse k.1 k.2 = some v

theorem coherent_nil (o : Oracle) : Coherent o [] := by
  intro k v h; simp at h

/-- the memo is a keyed list: `Get` and the removal before a re-insertion are core's first-match
    lookup and delete -/
theorem memoGet_eq (k : Bytes × Bytes) (memo : Memo) : memoGet k memo = (memo.find? (·.1 = k)).map (·.2) := by
  fun_induction memoGet k memo <;> simp [*]

theorem memoErase_eq (k : Bytes × Bytes) (memo : Memo) : memoErase k memo = memo.eraseP (·.1 = k) := by
  fun_induction memoErase k memo <;> simp [*]

theorem memoGet_mem {k : Bytes × Bytes} {memo : Memo} {v : T} (h : memoGet k memo = some v) : (k, v) ∈ memo :=
  mem_of_find?_fst (memoGet_eq k memo ▸ h)

theorem coherent_touch {o : Oracle} {memo : Memo} {k : Bytes × Bytes} {v : T} (hc : Coherent o memo)
    (hv : o.timeParse k.1 k.2 = some v) : Coherent o (memoTouch k v memo) := by
  intro k' v' h
  simp only [memoTouch, List.mem_cons] at h
  rcases h with h | h
  · cases h; exact hv
  · exact hc k' v' (List.mem_of_mem_eraseP (memoErase_eq k memo ▸ h))

theorem coherent_add {o : Oracle} {memo : Memo} {k : Bytes × Bytes} {v : T} (hc : Coherent o memo)
    (hv : o.timeParse k.1 k.2 = some v) : Coherent o (memoAdd k v memo) := by
  intro k' v' h
  exact coherent_touch hc hv k' v' (List.mem_of_mem_take h)

theorem memoAdd_length (k : Bytes × Bytes) (v : T) (memo : Memo) : (memoAdd k v memo).length ≤ memoCap := by
  simp [memoAdd, List.length_take]; omega

/-- what `Strptime` computes, memo or no memo -/
theorem stepStrptime_coherent (o : Oracle) (t : Thread) (st : MStore) (memo : Memo) (hc : Coherent o memo) :
    (stepStrptime o t st memo).1 = (stepStrptime o t st []).1 ∧ Coherent o (stepStrptime o t st memo).2 := by
  simp only [stepStrptime, memoGet]
  -- the pop of the layout, then of the value: a fault or a conversion error ends the step before
  -- the memo is consulted
  split
  · exact ⟨rfl, hc⟩
  · exact ⟨rfl, hc⟩
  split
  · exact ⟨rfl, hc⟩
  · exact ⟨rfl, hc⟩
  -- hit or miss
  split
  · next tm hg =>
    -- a hit returns what the library would, by coherence
    have hp := hc _ _ (memoGet_mem hg)
    rw [hp]
    exact ⟨rfl, coherent_touch hc hp⟩
  · split
    · next tm hp => exact ⟨rfl, coherent_add hc hp⟩
    · exact ⟨rfl, hc⟩

theorem step_coherent (o : Oracle) (p : Prog) (inp : Input) (i : Instr) (t : Thread) (st : MStore)
    (m1 m2 : Memo) (h1 : Coherent o m1) (h2 : Coherent o m2) :
    ∃ r m1' m2', step o p inp i t st m1 = (r, m1') ∧ step o p inp i t st m2 = (r, m2') ∧
      Coherent o m1' ∧ Coherent o m2' := by
  unfold step
  split
  · obtain ⟨a1, b1⟩ := stepStrptime_coherent o { t with pc := t.pc + 1 } st m1 h1
    obtain ⟨a2, b2⟩ := stepStrptime_coherent o { t with pc := t.pc + 1 } st m2 h2
    exact ⟨_, (stepStrptime o _ st m1).2, (stepStrptime o _ st m2).2, Prod.ext a1 rfl, Prod.ext a2 rfl, b1, b2⟩
  · exact ⟨_, m1, m2, rfl, rfl, h1, h2⟩

/-- the loop: outcome and store are the same under any two coherent memos -/
theorem run_coherent (o : Oracle) (p : Prog) (inp : Input) :
    ∀ (fuel : Nat) (t : Thread) (st : MStore) (m1 m2 : Memo), Coherent o m1 → Coherent o m2 →
      (run o p inp fuel t st m1).out = (run o p inp fuel t st m2).out ∧
      (run o p inp fuel t st m1).store = (run o p inp fuel t st m2).store ∧
      Coherent o (run o p inp fuel t st m1).memo ∧ Coherent o (run o p inp fuel t st m2).memo := by
  intro fuel
  induction fuel with
  | zero => intro t st m1 m2 h1 h2; exact ⟨rfl, rfl, h1, h2⟩
  | succ fuel ih =>
    intro t st m1 m2 h1 h2
    cases hi : p.code[t.pc]? with
    | none =>
      rw [run_done hi, run_done hi]
      exact ⟨rfl, rfl, h1, h2⟩
    | some i =>
      -- both runs take the same step
      obtain ⟨r, m1', m2', hs1, hs2, c1, c2⟩ := step_coherent o p inp i t st m1 m2 h1 h2
      rw [run_step hi, run_step hi, hs1, hs2]
      cases r with
      | next t' st' => exact ih t' st' m1' m2' c1 c2
      | _ => exact ⟨rfl, rfl, c1, c2⟩

/-- `run_coherent` for a whole line, as C05 uses it: one memo stays coherent; two coherent memos give
    the same outcome and store -/
theorem runLine_coherent {o : Oracle} {p : Prog} {fuel : Nat} {inp : Input} {st : MStore} {memo : Memo}
    (h : Coherent o memo) : Coherent o (runLine o p fuel inp st memo).memo :=
  (run_coherent o p inp fuel {} st memo memo h h).2.2.1

theorem runLine_memo_indep {o : Oracle} {p : Prog} {fuel : Nat} {inp : Input} {st : MStore} {m1 m2 : Memo}
    (h1 : Coherent o m1) (h2 : Coherent o m2) :
    (runLine o p fuel inp st m1).out = (runLine o p fuel inp st m2).out ∧
    (runLine o p fuel inp st m1).store = (runLine o p fuel inp st m2).store :=
  let ⟨a, b, _⟩ := run_coherent o p inp fuel {} st m1 m2 h1 h2
  ⟨a, b⟩

end MtailVerif.VM
