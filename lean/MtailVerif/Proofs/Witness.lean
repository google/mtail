import MtailVerif.Model.Witness
import MtailVerif.Proofs.Assoc
/-! What the order-witness program of C19 ends with, reduced to one file at a time: its record for
    a file is a fold over that file's lines alone, whatever is interleaved with them. -/
namespace MtailVerif.Witness

/-- the state is a finite map -/
theorem get_put (st : List (Nat × W)) (i j : Nat) (w : W) :
    get (put st i w) j = if j = i then w else get st j := by
  unfold get put
  rw [find?_put]
  by_cases hj : j = i <;> simp only [hj, if_true, if_false]

/-- what the witness holds for file `i` depends only on that file's own lines, in their order -/
theorem runW_proj (g : List (Nat × Nat)) (i : Nat) (st : List (Nat × W)) :
    get (g.foldl stepW st) i = ((g.filter (·.1 = i)).map (·.2)).foldl bumpW (get st i) := by
  induction g generalizing st with
  | nil => rfl
  | cons x rest ih =>
    simp only [List.foldl_cons, ih]
    by_cases hx : x.1 = i
    · simp only [List.filter_cons, hx, decide_true, if_true, List.map_cons, List.foldl_cons]
      congr 1
      simp only [stepW, hx, get_put, if_true]
    · simp only [List.filter_cons, hx, decide_false, Bool.false_eq_true, if_false]
      congr 1
      simp only [stepW, get_put, if_neg (Ne.symm hx)]

/-- on strictly increasing positive numbers the witness counts every line, remembers the last
    and sees no line out of order -/
theorem runOne_increasing (ns : List Nat) (w : W) (hpair : (w.last :: ns).Pairwise (· < ·)) :
    ns.foldl bumpW w = { count := w.count + ns.length, last := (ns.getLast?.getD w.last), ooo := w.ooo } := by
  induction ns generalizing w with
  | nil => rfl
  | cons n rest ih =>
    rw [List.pairwise_cons] at hpair
    -- `n` is in order, so `ooo` stays
    have hb : bumpW w n = { count := w.count + 1, last := n, ooo := w.ooo } := by
      rw [bumpW, if_neg (Nat.not_le_of_gt (hpair.1 n List.mem_cons_self))]
    rw [List.foldl_cons, hb, ih _ hpair.2, List.getLast?_cons, List.length_cons, Nat.add_assoc, Nat.add_comm 1]
    rfl

end MtailVerif.Witness
