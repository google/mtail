import MtailVerif.Model.Reload
import MtailVerif.Proofs.Lists
/-! Every schedule of the draining protocol (`step true`: the swap waits for the handle's VM) keeps
    `Inv`.  The swap is the one action that could let a second VM hold a line, and it is enabled only
    when the handle's VM is idle, which with `Inv.oldIdle` means that no VM holds one (`all_idle`). -/
namespace MtailVerif.Reload

def inflight (s : St) : List Nat :=
  match s.vms with
  | v :: _ => v.cur.toList
  | [] => []

/-- the invariant of the draining protocol: lines are, in arrival order, first the applied ones,
    then the one the current VM holds, then the one the fan-out holds; only the current VM is busy;
    instance numbers are fresh -/
structure Inv (s : St) : Prop where
  order : s.taken = s.applied ++ inflight s ++ s.pending.toList
  log : s.started.map (·.1) = s.applied ++ inflight s
  oldIdle : ∀ v ∈ s.vms.tail, v.cur = none
  fresh : ∀ v ∈ s.vms, v.inst < s.next
  distinct : (s.vms.map (·.inst)).Nodup

theorem inv_init : Inv {} := ⟨rfl, rfl, by simp, by simp, by simp⟩

theorem curOf_tail_none {i : Nat} {vs : List VM} (h : ∀ v ∈ vs, v.cur = none) : curOf i vs = none := by
  -- the clauses of `curOf`, and of `setCur` below: no VM; the head is instance `i`; it is not
  fun_induction curOf i vs with
  | case1 => rfl
  | case2 v vs _ => exact h v List.mem_cons_self
  | case3 v vs _ ih => exact ih (List.forall_mem_cons.mp h).2

theorem setCur_inst (i : Nat) (c : Option Nat) (vs : List VM) : (setCur i c vs).map (·.inst) = vs.map (·.inst) := by
  fun_induction setCur i c vs <;> simp [*]

theorem setCur_none_idle {i : Nat} {vs : List VM} (h : ∀ v ∈ vs, v.cur = none) :
    ∀ v ∈ setCur i none vs, v.cur = none := by
  fun_induction setCur i none vs with
  | case1 => nofun
  | case2 v vs _ => exact List.forall_mem_cons.mpr ⟨rfl, (List.forall_mem_cons.mp h).2⟩
  | case3 v vs _ ih => exact List.forall_mem_cons.mpr ⟨h v List.mem_cons_self, ih (List.forall_mem_cons.mp h).2⟩

theorem setCur_mem_inst {i : Nat} {c : Option Nat} {vs : List VM} {w : VM} (h : w ∈ setCur i c vs) :
    ∃ v ∈ vs, v.inst = w.inst := by
  fun_induction setCur i c vs with
  | case1 => cases h
  | case2 v vs _ =>
    rcases List.mem_cons.mp h with rfl | h
    · exact ⟨v, List.mem_cons_self, rfl⟩
    · exact ⟨w, List.mem_cons_of_mem _ h, rfl⟩
  | case3 v vs _ ih =>
    rcases List.mem_cons.mp h with rfl | h
    · exact ⟨_, List.mem_cons_self, rfl⟩
    · obtain ⟨x, hx, hxe⟩ := ih h
      exact ⟨x, List.mem_cons_of_mem _ hx, hxe⟩

/-- the VM that holds a line is the handle's, the older ones being idle -/
theorem curOf_some {i l : Nat} {v : VM} {vs : List VM} (hold : ∀ w ∈ vs, w.cur = none)
    (hc : curOf i (v :: vs) = some l) : v.inst = i ∧ v.cur = some l := by
  by_cases hvi : v.inst = i
  · exact ⟨hvi, by simpa [curOf, hvi] using hc⟩
  · simp [curOf, hvi, curOf_tail_none hold] at hc

/-- what the swap waits for: with the handle's VM idle too, no VM at all holds a line -/
theorem all_idle {s : St} (hb : oldBusy s = false) (hold : ∀ v ∈ s.vms.tail, v.cur = none) :
    inflight s = [] ∧ ∀ v ∈ s.vms, v.cur = none := by
  cases hvs : s.vms with
  | nil => exact ⟨by simp [inflight, hvs], by simp⟩
  | cons v vs =>
    have hv : v.cur = none := by simpa [oldBusy, hvs] using hb
    exact ⟨by simp [inflight, hvs, hv], fun w hw => (List.mem_cons.mp hw).elim (· ▸ hv) (hold w ∘ by simp [hvs])⟩

/-- the handle's VM takes a line or gives one back: `order` and `log` are asked for again, for the new
    division of the lines; the rest of the invariant does not look at `cur` of the head -/
theorem Inv.setHead {s : St} (hi : Inv s) {v : VM} {vs : List VM} (hv : s.vms = v :: vs) (c : Option Nat)
    {taken applied : List Nat} {pending : Option Nat} {started : List (Nat × Nat)}
    (ho : taken = applied ++ c.toList ++ pending.toList) (hl : started.map (·.1) = applied ++ c.toList) :
    Inv { s with vms := { v with cur := c } :: vs, taken := taken, applied := applied, pending := pending,
                 started := started } := by
  obtain ⟨-, -, hold, hf, hd⟩ := hi
  rw [hv] at hold hf hd
  -- the head keeps its instance number
  exact ⟨ho, hl, hold, List.forall_mem_cons.mpr (List.forall_mem_cons.mp hf), hd⟩

theorem inv_step {s s' : St} {a : Act} (hi : Inv s) (h : step true s a = some s') : Inv s' := by
  cases a with
  | take l =>
    rcases hp : s.pending with _ | _
    case some => simp [step, hp] at h
    simp only [step, hp, Option.some.injEq] at h
    subst h
    exact { hi with order := by simp [hi.order, inflight, hp] }
  | hand =>
    simp only [step, Option.ite_none_left_eq_some] at h
    obtain ⟨-, h⟩ := h
    -- enabled when the fan-out holds a line `l` and the handle's VM `v` is idle
    split at h
    · next l v vs hp hv =>
      split at h
      · next hc =>
        cases h
        exact hi.setHead hv (some l) (by simpa [inflight, hv, hc, hp] using hi.order)
          (by simpa [inflight, hv, hc] using hi.log)
      · cases h
    · cases h
  | finish i =>
    simp only [step] at h
    split at h
    · next l hc =>
      cases h
      rcases hv : s.vms with _ | ⟨v, vs⟩
      · simp [hv, curOf] at hc
      obtain ⟨hvi, hcur⟩ := curOf_some (by simpa [hv] using hi.oldIdle) (hv ▸ hc)
      rw [show setCur i none (v :: vs) = { v with cur := none } :: vs by simp [setCur, hvi]]
      exact hi.setHead hv none (by simpa [inflight, hv, hcur] using hi.order)
        (by simpa [inflight, hv, hcur] using hi.log)
    · cases h
  | beginSwap =>
    simp only [step, Option.ite_none_left_eq_some, Option.some.injEq] at h
    obtain ⟨-, rfl⟩ := h
    exact { hi with }
  | endSwap =>
    simp only [step, Option.ite_none_left_eq_some, Option.some.injEq] at h
    obtain ⟨-, hnb, rfl⟩ := h
    obtain ⟨hidle, hall⟩ := all_idle (by simpa using hnb) hi.oldIdle
    have ho := hi.order
    have hl := hi.log
    rw [hidle] at ho hl
    refine ⟨by simpa [inflight] using ho, by simpa [inflight] using hl, hall,
      by simpa using fun w hw => Nat.lt_succ_of_lt (hi.fresh w hw),
      List.nodup_cons.mpr ⟨fun hmem => ?_, hi.distinct⟩⟩
    -- the new instance number is above all the others
    obtain ⟨w, hw, hwe⟩ := List.mem_map.mp hmem
    exact Nat.ne_of_lt (hi.fresh w hw) hwe

theorem inv_run {s s' : St} (hi : Inv s) {as : List Act} (h : run true s as = some s') : Inv s' :=
  inv_of_run (fun _ => rfl) (fun _ _ _ => rfl) inv_step hi h

end MtailVerif.Reload
