import MtailVerif.Model.VM
import MtailVerif.Proofs.Metric
import MtailVerif.Proofs.Lists
/-! Store-level invariants used by the verifier's soundness proof: every datum of metric `m`
    (live, or removed on this line) has the payload type the metric declares, and a datum pointer
    that resolves keeps resolving whatever the VM does to the store.  Each store-changing primitive
    (`updD`, `GetDatum`, `RemoveDatum`, `ExpireDatum`) gets one lemma saying both. -/
namespace MtailVerif.VM.Verify
open MtailVerif MtailVerif.VM

/-- the payload type of a datum of metric `m` is the one the metric declares -/
def TyOK (p : Prog) (m : Nat) (d : Datum) : Prop :=
  ∃ mi, p.metrics[m]? = some mi ∧ d.val.ty = mi.typ

theorem TyOK.of_ty_eq {p : Prog} {m : Nat} {d d' : Datum} (h : TyOK p m d) (hty : d'.val.ty = d.val.ty) :
    TyOK p m d' := by
  obtain ⟨mi, h1, h2⟩ := h
  exact ⟨mi, h1, hty.trans h2⟩

structure StoreOK (p : Prog) (st : MStore) (dead : List (Nat × Metric.LV Datum)) : Prop where
  len : st.length = p.metrics.length
  keys : ∀ (m : Nat) (mm : Metric.Metric Datum) (mi : MetricInfo), st[m]? = some mm → p.metrics[m]? = some mi → mm.nkeys = mi.nkeys
  live : ∀ (m : Nat) (mm : Metric.Metric Datum), st[m]? = some mm → ∀ l ∈ mm.lvs, TyOK p m l.value
  deadOK : ∀ x ∈ dead, TyOK p x.1 x.2.value

section
variable {p : Prog} {st : MStore} {dead dead' : List (Nat × Metric.LV Datum)} {m lv : Nat}

theorem deadLookup_mem {d : Datum} (h : deadLookup m lv dead = some d) : ∃ x ∈ dead, x.1 = m ∧ x.2.value = d := by
  induction dead with
  | nil => simp [deadLookup] at h
  | cons x xs ih =>
    obtain ⟨m', l⟩ := x
    simp only [deadLookup] at h
    split at h
    · next hx => cases h; exact ⟨(m', l), List.mem_cons_self, hx.1, rfl⟩
    · obtain ⟨y, hy, hy'⟩ := ih h
      exact ⟨y, List.mem_cons_of_mem _ hy, hy'⟩

theorem getD_ty (hs : StoreOK p st dead) {d : Datum} (h : getD st dead m lv = some d) : TyOK p m d := by
  unfold getD at h
  split at h
  · next l hl =>
    cases h
    obtain ⟨mm, hm, hb⟩ := Option.bind_eq_some_iff.mp hl
    exact hs.live m mm hm l (Metric.byId_mem hb).1
  · obtain ⟨x, hx, rfl, rfl⟩ := deadLookup_mem h
    exact hs.deadOK x hx

theorem StoreOK.forget (h : StoreOK p st dead) : StoreOK p st [] :=
  ⟨h.len, h.keys, h.live, by simp⟩

/-- every pointer that resolves in `(st, dead)` resolves in `(st', dead')` -/
def Ext (st : MStore) (dead : List (Nat × Metric.LV Datum)) (st' : MStore)
    (dead' : List (Nat × Metric.LV Datum)) : Prop :=
  ∀ m lv, (getD st dead m lv).isSome → (getD st' dead' m lv).isSome

theorem Ext.refl (st : MStore) (dead : List (Nat × Metric.LV Datum)) : Ext st dead st dead :=
  fun _ _ h => h

theorem getD_isSome (st : MStore) (dead : List (Nat × Metric.LV Datum)) (m lv : Nat) :
    (getD st dead m lv).isSome =
      (((st[m]?).bind fun mm => Metric.byId lv mm.lvs).isSome || (deadLookup m lv dead).isSome) := by
  unfold getD
  cases (st[m]?).bind fun mm => Metric.byId lv mm.lvs <;> rfl

theorem getD_isSome_of_live {mm : Metric.Metric Datum} (hm : st[m]? = some mm) (h : (Metric.byId lv mm.lvs).isSome) :
    (getD st dead m lv).isSome := by
  rw [getD_isSome, hm, Option.bind_some, h, Bool.true_or]

variable {mm mm' : Metric.Metric Datum}

/-- metric `m` is replaced by one that has every identity still, unless it is among the removed
    label values remembered from now on -/
theorem ext_set (hm : st[m]? = some mm)
    (hk : ∀ lv ∈ mm.lvs.map (·.id), lv ∈ mm'.lvs.map (·.id) ∨ (deadLookup m lv dead').isSome)
    (hd : ∀ m1 lv, (deadLookup m1 lv dead).isSome → (deadLookup m1 lv dead').isSome) :
    Ext st dead (st.set m mm') dead' := by
  intro m1 lv
  simp only [getD_isSome, List.getElem?_set, Bool.or_eq_true]
  split
  · next e =>
    subst e
    rw [hm, if_pos (List.getElem?_eq_some_iff.mp hm).1]
    exact fun h => h.elim (fun h => (hk lv (Metric.byId_isSome.mp h)).imp_left Metric.byId_isSome.mpr) fun h => .inr (hd _ _ h)
  · exact Or.imp_right (hd _ _)

theorem storeOK_set (hs : StoreOK p st dead) (hm : st[m]? = some mm) (hk : mm'.nkeys = mm.nkeys)
    (hl : ∀ l ∈ mm'.lvs, TyOK p m l.value) (hd : ∀ x ∈ dead', TyOK p x.1 x.2.value) :
    StoreOK p (st.set m mm') dead' := by
  refine ⟨by simp [hs.len], fun m1 mm1 mi h1 h2 => ?_, fun m1 mm1 h1 l hl1 => ?_, hd⟩
  · rcases getElem?_set_some h1 with ⟨rfl, rfl⟩ | h1
    · rw [hk]; exact hs.keys _ mm mi hm h2
    · exact hs.keys m1 mm1 mi h1 h2
  · rcases getElem?_set_some h1 with ⟨rfl, rfl⟩ | h1
    · exact hl l hl1
    · exact hs.live m1 mm1 h1 l hl1

/-- an update of a removed label value keeps its place in the list -/
theorem deadLookup_update_isSome (m lv : Nat) (f : Datum → Datum) (m' lv' : Nat)
    (dead : List (Nat × Metric.LV Datum)) :
    (deadLookup m' lv' (deadUpdate m lv f dead)).isSome = (deadLookup m' lv' dead).isSome := by
  -- the clauses of `deadUpdate`: the end of the list, the entry it updates, any entry before that
  fun_induction deadUpdate m lv f dead with
  | case1 => rfl
  | case2 a l rest hc => simp only [deadLookup]; split <;> rfl
  | case3 a l rest hc ih => simp only [deadLookup, apply_ite Option.isSome, ih]

theorem updD_eq (st : MStore) (dead : List (Nat × Metric.LV Datum)) (m lv : Nat) (f : Datum → Datum) :
    (∃ mm, st[m]? = some mm ∧ (Metric.byId lv mm.lvs).isSome ∧
      updD st dead m lv f = (st.set m (Metric.updateDatum mm lv f), dead)) ∨
    (((st[m]?).bind fun mm => Metric.byId lv mm.lvs) = none ∧ updD st dead m lv f = (st, deadUpdate m lv f dead)) := by
  unfold updD
  cases hm : st[m]? with
  | none => exact .inr ⟨rfl, rfl⟩
  | some mm =>
    cases hb : Metric.byId lv mm.lvs with
    | none => exact .inr ⟨hb, by simp only [hb]⟩
    | some l => exact .inl ⟨mm, rfl, by simp [hb], by simp only [hb]⟩

theorem deadUpdate_ty {d' : Datum} (hT : TyOK p m d') (hall : ∀ y ∈ dead, TyOK p y.1 y.2.value) :
    ∀ x ∈ deadUpdate m lv (fun _ => d') dead, TyOK p x.1 x.2.value := by
  fun_induction deadUpdate m lv (fun _ => d') dead with
  | case1 => exact hall
  | case2 a l rest hc =>
    rw [List.forall_mem_cons] at hall ⊢
    exact ⟨hc.1 ▸ hT, hall.2⟩
  | case3 a l rest hc ih =>
    rw [List.forall_mem_cons] at hall ⊢
    exact ⟨hall.1, ih hall.2⟩

theorem updD_sound (hs : StoreOK p st dead) {d d' : Datum} (hd : getD st dead m lv = some d) (hty : d'.val.ty = d.val.ty) :
    StoreOK p (updD st dead m lv (fun _ => d')).1 (updD st dead m lv (fun _ => d')).2 ∧
    Ext st dead (updD st dead m lv (fun _ => d')).1 (updD st dead m lv (fun _ => d')).2 := by
  have hT : TyOK p m d' := (getD_ty hs hd).of_ty_eq hty
  rcases updD_eq st dead m lv (fun _ => d') with ⟨mm, hm, -, e⟩ | ⟨-, e⟩ <;> rw [e]
  · exact ⟨storeOK_set hs hm rfl (Metric.forall_mem_mapId (fun _ _ => hT) (hs.live m mm hm)) hs.deadOK,
      ext_set hm (fun lv1 h => .inl (Metric.mapId_ids lv (fun l => { l with value := d' }) (fun _ => rfl) mm.lvs ▸ h))
        fun _ _ h => h⟩
  · refine ⟨⟨hs.len, hs.keys, hs.live, deadUpdate_ty hT hs.deadOK⟩, fun m1 lv1 => ?_⟩
    simp only [getD_isSome, deadLookup_update_isSome]
    exact id

variable {keys : List Bytes}

theorem getDatum_sound (hs : StoreOK p st dead) (hm : st[m]? = some mm) {z : Datum} (hz : TyOK p m z) {id : Nat}
    (h : Metric.getDatum mm z keys = .ok (mm', id)) :
    StoreOK p (st.set m mm') dead ∧ Ext st dead (st.set m mm') dead ∧ (getD (st.set m mm') dead m id).isSome := by
  obtain ⟨g1, g2, g3, g4⟩ := Metric.getDatum_ok h
  refine ⟨storeOK_set hs hm g1 (fun l hl => ?_) hs.deadOK, ext_set hm (fun lv h => .inl (g4 lv h)) fun _ _ h => h,
    getD_isSome_of_live ?_ (Metric.byId_isSome.mpr g3)⟩
  · exact (g2 l hl).elim (hs.live m mm hm l) fun e => e ▸ hz
  · rw [List.getElem?_set_self (List.getElem?_eq_some_iff.mp hm).1]

/-- `RemoveDatum`, the removed label value (if there was one) being remembered in `dead`: pointers
    to it keep resolving -/
theorem removeDatum_sound (hs : StoreOK p st dead) (hm : st[m]? = some mm) (h : Metric.removeDatum mm keys = .ok mm') :
    StoreOK p (st.set m mm') ((match Metric.find mm keys with | some l => [(m, l)] | none => []) ++ dead) ∧
    Ext st dead (st.set m mm') ((match Metric.find mm keys with | some l => [(m, l)] | none => []) ++ dead) := by
  obtain ⟨g1, g2, g3⟩ := Metric.removeDatum_ok h
  refine ⟨storeOK_set hs hm g1 (fun l hl => hs.live m mm hm l (g2 l hl)) fun x hx => ?_,
    ext_set hm (fun lv hlv => (g3 lv hlv).imp_right ?_) fun m1 lv => ?_⟩
  · rcases List.mem_append.mp hx with hx | hx
    · split at hx
      · next l hf => cases List.mem_singleton.mp hx; exact hs.live m mm hm l (Metric.find_mem hf)
      · cases hx
    · exact hs.deadOK x hx
  · rintro ⟨l, hf, rfl⟩
    simp [hf, deadLookup]
  · split
    · simp only [List.cons_append, List.nil_append, deadLookup]
      split <;> simp
    · exact id

theorem expireDatum_sound (hs : StoreOK p st dead) (hm : st[m]? = some mm) {e : Int}
    (h : Metric.expireDatum mm e keys = .ok mm') :
    StoreOK p (st.set m mm') dead ∧ Ext st dead (st.set m mm') dead := by
  obtain ⟨g1, g2, g3⟩ := Metric.expireDatum_ok h
  refine ⟨storeOK_set hs hm g1 (fun l hl => ?_) hs.deadOK, ext_set hm (fun lv h => .inl (g3 ▸ h)) fun _ _ h => h⟩
  obtain ⟨l0, hl0, hv⟩ := g2 l hl
  exact hv ▸ hs.live m mm hm l0 hl0

end

end MtailVerif.VM.Verify
