import MtailVerif.Model.Pipeline
/-! The four facts C19 is made of: an invariant of every enabled action (`Inv`: what has arrived of a
    file, followed by what remains of it, is the file; no VM is ahead of the arrivals), progress in
    every such state that is not final, a measure that every enabled action decreases, and what the
    invariant says in a final state. -/
namespace MtailVerif.Pipeline
open MtailVerif

theorem sum_set (l : List Nat) (i : Nat) (x y : Nat) (h : l[i]? = some y) : (l.set i x).sum + y = l.sum + x := by
  induction l generalizing i with
  | nil => simp at h
  | cons a rest ih =>
    cases i with
    | zero => simp at h; subst h; simp; omega
    | succ i =>
      simp only [List.getElem?_cons_succ] at h
      simp only [List.set_cons_succ, List.sum_cons]
      have := ih i h; omega

theorem enabled_emit {s : St} {i : Nat} (he : enabled s (.emit i) = true) :
    ∃ l rest, s.remaining[i]? = some (l :: rest) := by
  rcases h : s.remaining[i]? with _ | _ | ⟨l, rest⟩
  · simp [enabled, h] at he
  · simp [enabled, h] at he
  · exact ⟨l, rest, rfl⟩

theorem enabled_process {s : St} {v : Nat} (he : enabled s (.process v) = true) :
    ∃ d, s.done[v]? = some d ∧ d < s.arrived.length := by
  rcases h : s.done[v]? with _ | d
  · simp [enabled, h] at he
  · exact ⟨d, rfl, by simpa [enabled, h] using he⟩

structure Inv (files : List (List Bytes)) (s : St) : Prop where
  nfiles : s.remaining.length = files.length
  split : ∀ i, i < files.length → projFile i s.arrived ++ (s.remaining[i]?.getD []) = (files[i]?.getD [])
  behind : ∀ d ∈ s.done, d ≤ s.arrived.length
  known : ∀ x ∈ s.arrived, x.1 < files.length

theorem inv_init (files : List (List Bytes)) (nvm : Nat) : Inv files (init files nvm) := by
  refine ⟨rfl, ?_, ?_, ?_⟩
  · intro i _; simp [init, projFile]
  · intro d hd; simp [init] at hd; simp [hd.2, init]
  · intro x hx; simp [init] at hx

theorem projFile_append (i : Nat) (a b : List Line) : projFile i (a ++ b) = projFile i a ++ projFile i b := by
  simp [projFile, List.filter_append]

theorem inv_step (files : List (List Bytes)) (s : St) (hi : Inv files s) (a : Act) (he : enabled s a = true) :
    Inv files (step s a) := by
  cases a with
  | emit i =>
    obtain ⟨l, rest, hr⟩ := enabled_emit he
    have hil : i < s.remaining.length := (List.getElem?_eq_some_iff.mp hr).1
    simp only [step, hr]
    refine ⟨by simp [hi.nfiles], fun j hj => ?_, fun d hd => ?_, ?_⟩
    · -- the line moves from the head of what remains of file `i` to the end of what has arrived of it
      have hs := hi.split j hj
      rw [projFile_append, List.getElem?_set]
      by_cases hij : i = j
      · subst hij
        rw [if_pos rfl, if_pos hil, ← hs, hr]
        simp [projFile]
      · rw [if_neg hij, ← hs]
        simp [projFile, hij]
    · have := hi.behind d hd; simp; omega
    · intro x hx
      rcases List.mem_append.mp hx with hx | hx
      · exact hi.known x hx
      · cases List.mem_singleton.mp hx; exact hi.nfiles ▸ hil
  | process v =>
    obtain ⟨d, hd, he⟩ := enabled_process he
    simp only [step, hd]
    refine { hi with behind := fun d' hd' => ?_ }
    rcases List.mem_or_eq_of_mem_set hd' with h | rfl
    · exact hi.behind d' h
    · exact he

/-- no deadlock: a reachable state that is not final always has an enabled action -/
theorem progress (s : St) (hb : ∀ d ∈ s.done, d ≤ s.arrived.length) (hf : final s = false) :
    ∃ a, enabled s a = true := by
  unfold final at hf
  simp only [Bool.and_eq_false_iff] at hf
  rcases hf with h | h
  · simp only [List.all_eq_false] at h
    obtain ⟨li, hli, hne⟩ := h
    obtain ⟨i, hi, rfl⟩ := List.mem_iff_getElem.mp hli
    refine ⟨.emit i, ?_⟩
    simp only [enabled, List.getElem?_eq_getElem hi]
    cases hq : s.remaining[i] with
    | nil => simp [hq] at hne
    | cons l rest => rfl
  · simp only [List.all_eq_false] at h
    obtain ⟨d, hd, hne⟩ := h
    obtain ⟨v, hv, rfl⟩ := List.mem_iff_getElem.mp hd
    refine ⟨.process v, ?_⟩
    have hle := hb _ hd
    have hlt : s.done[v] < s.arrived.length := by
      have : s.done[v] ≠ s.arrived.length := by simpa using hne
      omega
    simp [enabled, List.getElem?_eq_getElem hv, hlt]

theorem sum_sub_succ_le (ds : List Nat) (a : Nat) :
    (ds.map fun d => a + 1 - d).sum ≤ (ds.map fun d => a - d).sum + ds.length := by
  induction ds with
  | nil => exact Nat.le_refl _
  | cons d ds ih => simp only [List.map_cons, List.sum_cons, List.length_cons]; omega

/-- every enabled action strictly decreases the measure: every run is finite -/
theorem measure_decreases (s : St) (a : Act) (he : enabled s a = true) : measure (step s a) < measure s := by
  cases a with
  | emit i =>
    obtain ⟨l, rest, hr⟩ := enabled_emit he
    -- one line fewer to read, and every VM at most one line further behind
    simp only [step, hr, measure, List.map_set, List.length_append, List.length_singleton]
    have hset := sum_set (s.remaining.map (·.length)) i rest.length (rest.length + 1) (by simp [hr])
    have hle := sum_sub_succ_le s.done s.arrived.length
    generalize ((s.remaining.map (·.length)).set i rest.length).sum = S' at hset ⊢
    rw [show (s.remaining.map (·.length)).sum = S' + 1 by omega, Nat.succ_mul]
    omega
  | process v =>
    obtain ⟨d, hd, he⟩ := enabled_process he
    simp only [step, hd, measure, List.length_set, List.map_set]
    have hset := sum_set (s.done.map (fun d => s.arrived.length - d)) v (s.arrived.length - (d + 1))
      (s.arrived.length - d) (by simp [hd])
    omega

/-- in a final state every file has been delivered completely and in order, and every VM has
    processed every arrived line -/
theorem final_complete (files : List (List Bytes)) (s : St) (hi : Inv files s) (hf : final s = true) :
    (∀ i, i < files.length → projFile i s.arrived = (files[i]?.getD [])) ∧
    (∀ d ∈ s.done, d = s.arrived.length) := by
  unfold final at hf
  simp only [Bool.and_eq_true, List.all_eq_true, beq_iff_eq] at hf
  refine ⟨?_, hf.2⟩
  intro i hi'
  have hs := hi.split i hi'
  have hil : i < s.remaining.length := by rw [hi.nfiles]; exact hi'
  have hemp : s.remaining[i]?.getD [] = [] := by
    have := hf.1 (s.remaining[i]) (List.getElem_mem hil)
    simp only [List.getElem?_eq_getElem hil, Option.getD_some]
    simpa using this
  rw [hemp, List.append_nil] at hs
  exact hs

end MtailVerif.Pipeline
