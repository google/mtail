import MtailVerif.Model.Conn
import MtailVerif.Proofs.Reader
import MtailVerif.Proofs.Assoc
/-! Every handler is in step with the bytes of its own connection (`Inv.hand`): its reader holds the
    remainder of `spec [] seen`, and the lines in the output tagged with its connection are the
    complete lines of `spec [] seen`.  `Inv.deliver` re-establishes this when one connection's lines
    are appended (data, close); a cancellation leaves no handler, and the closer touches neither
    handlers nor output. -/
namespace MtailVerif.Conn
open MtailVerif MtailVerif.Reader

structure Inv (s : S) : Prop where
  nodup : (s.conns.map (·.id)).Nodup
  usedC : ∀ h ∈ s.conns, h.id ∈ s.used
  usedO : ∀ x ∈ s.out, x.1 ∈ s.used
  hand : ∀ h ∈ s.conns, nl ∉ (spec [] h.seen).2 ∧ h.lr = ⟨(spec [] h.seen).2, 0⟩ ∧
    proj h.id s.out = (spec [] h.seen).1

theorem proj_append_tag (c c' : Nat) (out : List (Nat × Bytes)) (ls : List Bytes) :
    proj c' (out ++ tag c ls) = proj c' out ++ if c = c' then ls else [] := by
  simp only [proj, tag, List.filter_append, List.map_append, List.filter_map, List.map_map, Function.comp_def]
  by_cases h : c = c' <;> simp [h]

theorem closer_frame (cfg : Cfg) (s : S) :
    (closer cfg s).conns = s.conns ∧ (closer cfg s).out = s.out ∧ (closer cfg s).used = s.used := by
  unfold closer
  simp only
  split
  · split <;> exact ⟨rfl, rfl, rfl⟩
  · exact ⟨rfl, rfl, rfl⟩

theorem inv_closer (cfg : Cfg) {s : S} (h : Inv s) : Inv (closer cfg s) := by
  obtain ⟨h1, h2, h3⟩ := closer_frame cfg s
  exact ⟨h1 ▸ h.nodup, by rw [h1, h3]; exact h.usedC, by rw [h2, h3]; exact h.usedO,
    by rw [h1, h2]; exact h.hand⟩

theorem spec_nonl_init : nl ∉ (spec [] ([] : Bytes)).2 := by simp [spec]

/-- connection `c` delivers `ls` and its handler changes or goes: every handler left is either an old
    one of another connection, which keeps its part of the invariant because no line of its own is
    added, or `c`'s, in step with the new output -/
theorem Inv.deliver {s : S} (hi : Inv s) {c : Nat} (hc : c ∈ s.used) {ls : List Bytes} {conns : List Handler}
    (hnd : (conns.map (·.id)).Nodup)
    (hmem : ∀ h ∈ conns, h ∈ s.conns ∧ h.id ≠ c ∨ h.id = c ∧ nl ∉ (spec [] h.seen).2 ∧
      h.lr = ⟨(spec [] h.seen).2, 0⟩ ∧ proj c (s.out ++ tag c ls) = (spec [] h.seen).1) :
    Inv { s with conns := conns, out := s.out ++ tag c ls } where
  nodup := hnd
  usedC h hh := (hmem h hh).elim (fun ⟨hm, _⟩ => hi.usedC h hm) fun ⟨e, _⟩ => e ▸ hc
  usedO x hx := (List.mem_append.mp hx).elim (hi.usedO x) fun hx => by
    obtain ⟨l, _, rfl⟩ := List.mem_map.mp hx
    exact hc
  hand h hh := by
    rcases hmem h hh with ⟨hm, hne⟩ | ⟨e, a, b, d⟩
    · obtain ⟨a, b, d⟩ := hi.hand h hm
      exact ⟨a, b, by rw [proj_append_tag, if_neg (Ne.symm hne), List.append_nil]; exact d⟩
    · exact ⟨a, b, e ▸ d⟩

/-- one more chunk on connection `c`: the handler's reader delivers exactly the lines the chunk
    completes, and nobody else's lines change -/
theorem step_data (cfg : Cfg) (s : S) (hi : Inv s) (c : Nat) (chunk : Bytes) (h : Handler)
    (hf : s.conns.find? (·.id = c) = some h) :
    Inv (step cfg s (.data c chunk)) ∧
    proj c (step cfg s (.data c chunk)).out = (spec [] (h.seen ++ chunk)).1 ∧
    (∀ c', c' ≠ c → proj c' (step cfg s (.data c chunk)).out = proj c' s.out) := by
  obtain ⟨hm, rfl⟩ := find?_key hf
  obtain ⟨hn, hlr, hproj⟩ := hi.hand h hm
  have hsa := spec_append [] h.seen chunk
  -- what `c` has delivered with the new lines
  have hown : proj h.id (s.out ++ tag h.id (spec (spec [] h.seen).2 chunk).1) = (spec [] (h.seen ++ chunk)).1 := by
    rw [proj_append_tag, if_pos rfl, hproj, hsa]
  simp only [step, hf, handlerData, hlr, readAndSend_spec _ chunk hn]
  refine ⟨hi.deliver (hi.usedC h hm) ?_ fun x hx => ?_, hown, fun c' hc' => ?_⟩
  · rw [List.map_map, List.map_congr_left (g := (·.id))]
    · exact hi.nodup
    · intro x _; simp only [Function.comp]; split <;> simp [*]
  · obtain ⟨y, hy, rfl⟩ := List.mem_map.mp hx
    by_cases hyc : y.id = h.id
    · rw [if_pos hyc]
      exact .inr ⟨rfl, hsa ▸ spec_rem_nonl _ chunk hn, by rw [hsa], hown⟩
    · rw [if_neg hyc]
      exact .inl ⟨hy, hyc⟩
  · rw [proj_append_tag, if_neg (Ne.symm hc'), List.append_nil]

/-- the peer closes connection `c`: altogether that connection has delivered exactly
    `specLines` of everything it sent, and nobody else's lines change -/
theorem step_close (cfg : Cfg) (s : S) (hi : Inv s) (c : Nat) (h : Handler)
    (hf : s.conns.find? (·.id = c) = some h) :
    Inv (step cfg s (.close c)) ∧
    proj c (step cfg s (.close c)).out = specLines h.seen ∧
    (∀ c', c' ≠ c → proj c' (step cfg s (.close c)).out = proj c' s.out) := by
  obtain ⟨hm, rfl⟩ := find?_key hf
  obtain ⟨hn, hlr, hproj⟩ := hi.hand h hm
  simp only [step, hf, (closer_frame cfg _).2.1]
  refine ⟨inv_closer cfg (hi.deliver (hi.usedC h hm) (hi.nodup.sublist (List.filter_sublist.map _))
    fun x hx => .inl ⟨(List.mem_filter.mp hx).1, by simpa using (List.mem_filter.mp hx).2⟩), ?_, fun c' hc' => ?_⟩
  · rw [proj_append_tag, if_pos rfl, hproj, hlr, finish_rem]; rfl
  · rw [proj_append_tag, if_neg (Ne.symm hc'), List.append_nil]

theorem proj_unused (c : Nat) (s : S) (hi : Inv s) (hc : c ∉ s.used) : proj c s.out = [] := by
  have : s.out.filter (·.1 = c) = [] :=
    List.filter_eq_nil_iff.mpr fun x hx e => hc (of_decide_eq_true e ▸ hi.usedO x hx)
  rw [proj, this]
  rfl

theorem step_accept (cfg : Cfg) (s : S) (hi : Inv s) (c : Nat) : Inv (step cfg s (.accept c)) := by
  simp only [step]
  by_cases hcond : s.listenerClosed = true ∨ s.used.contains c = true
  · rw [if_pos hcond]; exact hi
  · rw [if_neg hcond]
    have hc : c ∉ s.used := by simpa using (not_or.mp hcond).2
    refine inv_closer cfg ⟨?_, ?_, fun x hx => List.mem_cons_of_mem _ (hi.usedO x hx), ?_⟩
    · -- an open connection is in use, and `c` is not
      exact nodup_map_concat hi.nodup fun h hh e => hc (e ▸ hi.usedC h hh :)
    · exact List.forall_mem_append.mpr
        ⟨fun h hh => List.mem_cons_of_mem _ (hi.usedC h hh), List.forall_mem_singleton.mpr List.mem_cons_self⟩
    · exact List.forall_mem_append.mpr
        ⟨hi.hand, List.forall_mem_singleton.mpr ⟨spec_nonl_init, rfl, proj_unused c s hi hc⟩⟩

theorem step_cancel (cfg : Cfg) (s : S) (hi : Inv s) : Inv (step cfg s .cancel) := by
  simp only [step]
  apply inv_closer
  refine ⟨by simp, by simp, ?_, by simp⟩
  intro x hx
  simp only [List.mem_append, List.mem_flatMap] at hx
  rcases hx with hx | ⟨h, hh, hx⟩
  · exact hi.usedO x hx
  · simp only [tag, List.mem_map] at hx
    obtain ⟨l, _, rfl⟩ := hx
    exact hi.usedC h hh

theorem step_inv (cfg : Cfg) (s : S) (hi : Inv s) (ev : Ev) : Inv (step cfg s ev) := by
  cases ev with
  | accept c => exact step_accept cfg s hi c
  | data c chunk =>
    cases hf : s.conns.find? (·.id = c) with
    | none => simpa only [step, hf] using hi
    | some h => exact (step_data cfg s hi c chunk h hf).1
  | close c =>
    cases hf : s.conns.find? (·.id = c) with
    | none => simpa only [step, hf] using hi
    | some h => exact (step_close cfg s hi c h hf).1
  | cancel => exact step_cancel cfg s hi

theorem run_inv (cfg : Cfg) (evs : List Ev) (s : S) (hi : Inv s) : Inv (run cfg s evs) :=
  List.foldlRecOn evs (step cfg) hi fun s hs ev _ => step_inv cfg s hs ev

theorem inv_init : Inv {} := ⟨by simp, by simp, by simp, by simp⟩

/-- cancellation ends every handler and, with a closer that waits for the cancellation too and not
    for the first connection only, closes the output — also when no connection was ever accepted -/
theorem cancel_closes (cfg : Cfg) (hc : cfg.closerWaitsForCancelToo = true) (s : S) :
    (step cfg s .cancel).linesClosed = true ∧ (step cfg s .cancel).conns = [] := by
  simp [step, closer, hc]

/-- the closer never reopens the output (and `step` touches `linesClosed` through `closer` only) -/
theorem closer_idem (cfg : Cfg) (s : S) (h : s.linesClosed = true) : (closer cfg s).linesClosed = true := by
  unfold closer; simp only; split
  · split <;> simp [h]
  · exact h

end MtailVerif.Conn
