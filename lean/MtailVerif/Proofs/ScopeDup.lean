import MtailVerif.Proofs.ScopeFires
/-! A name a block has declared is still in the block's scope when a later statement of the same
    block declares it again, whatever stands between the two: every visit keeps the scope stack
    (`walk_visit`).  Hence `dup_fires`. -/
namespace MtailVerif.Scope
open MtailVerif MtailVerif.Ast

/-- the innermost scope holds `x` -/
def TopHas (x : String) (s : St) : Prop := ∃ f r i, s.frames = f :: r ∧ frameGet f x = some i

theorem TopHas.grows {x : String} {a b : St} (h : TopHas x a) (g : Grows a.frames b.frames) : TopHas x b := by
  obtain ⟨f, r, i, hf, hi⟩ := h
  obtain ⟨extra, he⟩ := (hf ▸ g).cons
  exact ⟨_, r, i, he, frameGet_append extra hi⟩

theorem keeps_topHas (x : String) {f : St → St} (hv : ∀ s, Visit s (f s)) : Keeps (TopHas x) f :=
  .of_visit hv fun _ _ hg h => h.grows hg

/-- the name a statement declares in the scope it stands in -/
def declName : Node → Option String
  | .decl d _ => some d.name
  | .const (.id n _ _) _ _ => some n
  | .decodecl n _ _ => some n
  | _ => none

def declaredIn (x : String) : Nodes → Bool
  | .nil => false
  | .cons n ns => declName n == some x || declaredIn x ns

/-- two statements of the list declare the same name -/
def dupIn : Nodes → Bool
  | .nil => false
  | .cons n ns => (match declName n with | some x => declaredIn x ns | none => false) || dupIn ns

mutual
/-- does some block of the tree declare a name twice? -/
def hasDup : Node → Bool
  | .stmts cs => dupIn cs || hasDupList cs
  | .cond _ t e => hasDup t || hasDup e
  | .decodecl _ block _ => hasDup block
  | .deco _ block _ => hasDup block
  | _ => false
def hasDupList : Nodes → Bool
  | .nil => false
  | .cons n ns => hasDup n || hasDupList ns
end

/-- a statement that declares `x` is visited by `declare x`; what holds across every visit holds
    across what it then goes on with -/
theorem walk_declaring (cfg : Cfg) {x : String} {n : Node} (h : declName n = some x) :
    ∃ k p c dp ok, k ≠ .capref ∧ walk cfg n = guarded cfg n (declare x k p c dp ok) ∧
      ∀ {D M R}, Closed cfg D M R → (∀ y, declares y n = true → D y) → (∀ y, mentions y n = true → M y) →
        ∀ sy s, R s (ok sy s) := by
  revert h
  -- `.decl`; `.const` named by an identifier; `.decodecl`; any other node declares nothing
  fun_cases declName n with
  | case1 d p =>
    intro h
    cases h
    exact ⟨.var, _, _, _, _, by decide, rfl, fun C _ _ _ => C.declOk d p⟩
  | case2 name p ty e pt =>
    intro h
    cases h
    exact ⟨.pattern, _, _, _, _, by decide, rfl, fun C hd hm sy s =>
      C.trans (walk_rel C e (sub_r hd) hm s) (C.leave (C.recordPattern sy e) _)⟩
  | case3 name block p =>
    intro h
    cases h
    exact ⟨.deco, _, _, _, _, by decide, rfl, fun C hd hm sy =>
      C.decoBody sy _ (walk_rel C block (sub_r hd) hm)⟩
  | case4 => exact nofun

theorem declare_dup (name : String) (k : Kind) (p : Option Pos) (c : Cls) (dp : Option Pos) (ok : Sym → St → St) (s : St)
    (h : TopHas name s) : s.errors.length < (declare name k p c dp ok s).errors.length := by
  obtain ⟨f, r, i, hf, hi⟩ := h
  rw [declare_taken k p c dp ok hf hi]
  exact lt_err (s.newSym name k p).1

/-- A declaration: it leads from `J` to `J'` (or reports an error) if the state with the new symbol
    entered satisfies `J'` and what the declaration goes on with is a visit that keeps `J'`. -/
theorem leads_declare {J J' : St → Prop} {name : String} (k : Kind) (p : Option Pos) (c : Cls) (dp : Option Pos)
    {ok : Sym → St → St} (hne : ∀ s, J s → s.frames ≠ [])
    (hJ : ∀ s f r, J s → s.frames = f :: r → frameGet f name = none →
      J' { (s.newSym name k p).1 with frames := (f ++ [(name, s.syms.length)]) :: r })
    (hv : ∀ sy s, Visit s (ok sy s)) (hok : ∀ sy, Keeps J' (ok sy)) : Leads J J' (declare name k p c dp ok) := by
  refine ⟨fun s => (visit_declare k p c dp hv s).ext, fun s hs hj => ?_⟩
  cases hf : s.frames with
  | nil => exact absurd hf (hne s hj)
  | cons f r =>
    cases hg : frameGet f name with
    | some i => exact .inr (declare_dup name k p c dp ok s ⟨f, r, i, hf, hg⟩)
    | none =>
      rw [declare_fresh k p c dp ok hf hg]
      exact (hok _).leads _ hs (hJ s f r hj hf hg)

/-- the first of two declarations leaves the name in the innermost scope -/
theorem declared_top (cfg : Cfg) {x : String} {n : Node} (h : declName n = some x) :
    Leads (·.frames ≠ []) (TopHas x) (walk cfg n) := by
  obtain ⟨k, p, c, dp, ok, _, e, hok⟩ := walk_declaring cfg h
  have hv := hok (closed_visit cfg) (fun _ _ => trivial) fun _ _ => trivial
  rw [e]
  exact .guarded (fun _ _ h => h) (leads_declare k p c dp (fun _ h => h)
    (fun s f r _ _ hg => ⟨_, r, _, rfl, frameGet_append_self _ hg⟩) hv fun sy => keeps_topHas x (hv sy))

/-- a statement that declares `x`, met when the innermost scope already holds `x` -/
theorem redeclared_fires (cfg : Cfg) {x : String} {n : Node} (h : declName n = some x) : FiresOn (TopHas x) (walk cfg n) := by
  obtain ⟨k, p, c, dp, ok, _, e, _⟩ := walk_declaring cfg h
  rw [e]
  exact .guarded (fun _ _ h => h) fun s _ => declare_dup x k p c dp ok s

theorem later_fires (cfg : Cfg) (x : String) : ∀ ns, declaredIn x ns = true → FiresOn (TopHas x) (walkList cfg ns)
  | .nil, h => nomatch h
  | .cons n ns, h => fires_cons (keeps_topHas x (walk_visit cfg n))
      ((of_or h).imp (fun h => redeclared_fires cfg (beq_iff_eq.mp h)) (later_fires cfg x ns))

theorem keeps_nonempty {f : St → St} (hv : ∀ s, Visit s (f s)) : Keeps (·.frames ≠ []) f :=
  .of_visit hv fun _ _ hg => hg.ne_nil

theorem dupIn_fires (cfg : Cfg) : ∀ ns, dupIn ns = true → FiresOn (·.frames ≠ []) (walkList cfg ns)
  | .nil, h => nomatch h
  | .cons n ns, h => by
    rcases of_or h with h | h
    · show FiresOn _ fun s => walkList cfg ns (walk cfg n s)
      cases hd : declName n with
      | none => rw [hd] at h; cases h
      | some x =>
        rw [hd] at h
        exact .after (declared_top cfg hd) (later_fires cfg x ns h) (walkList_ext cfg ns)
    · exact fires_cons (keeps_nonempty (walk_visit cfg n)) (.inr (dupIn_fires cfg ns h))

theorem dup_fires_both (cfg : Cfg) : (∀ n, hasDup n = true → FiresOn (fun _ => True) (walk cfg n)) ∧
    ∀ ns, hasDupList ns = true → FiresOn (fun _ => True) (walkList cfg ns) := by
  have S := stable_true
  have K n := keeps_true (walk_visit cfg n)
  -- one case per clause of `hasDup`, in the order written there, then those of `hasDupList`
  apply hasDup.mutual_induct
  case case1 =>
    exact fun cs ih h => (of_or h).elim
      (fun h => fires_block S.depth (fun s _ => by simp [push]) ((dupIn_fires cfg cs h).thenLeave ext_popSweep))
      fun h => fires_stmts S (ih h)
  case case2 =>
    exact fun c t e iht ihe h => fires_cond S (K c) (K t)
      ((of_or h).elim (fun h => .inl (.inr (iht h))) fun h => .inr (ihe h))
  case case3 => exact fun _ _ _ ih h => fires_decodecl S (fun _ => trivial) (fun _ => trivial) (ih h)
  case case4 => exact fun _ _ _ ih h => fires_deco S (fun _ _ _ => trivial) (ih h)
  case case5 => intros; simp only [hasDup, Bool.false_eq_true, *] at *   -- `| _ => false`
  case case6 => exact nofun
  case case7 => exact fun n ns ihn ihns h => fires_cons (K n) ((of_or h).imp ihn ihns)

/-- **a name declared twice in one block is rejected, wherever the block stands** -/
theorem dup_fires (cfg : Cfg) (n : Node) (h : hasDup n = true) : FiresA (walk cfg n) :=
  ((dup_fires_both cfg).1 n h).firesA

theorem dupList_fires (cfg : Cfg) : ∀ (ns : Nodes), hasDupList ns = true → FiresA (walkList cfg ns) :=
  fun ns h => ((dup_fires_both cfg).2 ns h).firesA

end MtailVerif.Scope
