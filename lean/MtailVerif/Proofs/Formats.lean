import MtailVerif.Model.Formats
/-! `formatLabels` names a label set in full: the name is the escaped keys and values joined by the
    separator, which core's `List.splitOn` takes apart again, and sorting only permutes. -/
namespace MtailVerif.Formats
open MtailVerif

theorem replace1_no_old (old : UInt8) (new s : Bytes) (h : old ∉ new) : old ∉ replace1 old new s := by
  simp only [replace1, List.mem_flatMap, not_exists, not_and]
  intro b _ hb
  split at hb
  · exact h hb
  · next e => exact e (List.mem_singleton.mp hb).symm

theorem replace1_id (old : UInt8) (new s : Bytes) (h : old ∉ s) : replace1 old new s = s := by
  induction s with
  | nil => rfl
  | cons b rest ih =>
    have ⟨hb, hr⟩ := List.ne_and_not_mem_of_not_mem_cons h
    simpa [replace1, Ne.symm hb] using ih hr

theorem intercalate_eq (sep : Bytes) (l : List Bytes) : intercalate sep l = sep.intercalate l := by
  fun_induction intercalate sep l with
  | case1 => rfl
  | case2 x => simp
  | case3 x rest h ih => rw [ih, List.intercalate_cons_of_ne_nil h]

/-- key, value, key, value, … -/
def flat (l : List (Bytes × Bytes)) : List Bytes := l.flatMap (fun kv => [kv.1, kv.2])

theorem flat_cons (a : Bytes × Bytes) (r : List (Bytes × Bytes)) : flat (a :: r) = a.1 :: a.2 :: flat r := rfl

theorem intercalate_pairs (sep : UInt8) (l : List (Bytes × Bytes)) :
    [sep].intercalate (l.map (fun kv => kv.1 ++ [sep] ++ kv.2)) = [sep].intercalate (flat l) := by
  induction l with
  | nil => rfl
  | cons kv rest ih =>
    cases rest with
    | nil => simp [flat]
    | cons kv2 r2 => simp_all [flat_cons]

theorem flat_inj {l1 l2 : List (Bytes × Bytes)} (h : flat l1 = flat l2) : l1 = l2 := by
  induction l1 generalizing l2 with
  | nil => cases l2 with
    | nil => rfl
    | cons => cases h
  | cons a r ih => cases l2 with
    | nil => cases h
    | cons b r2 =>
      simp only [flat_cons, List.cons.injEq] at h
      rw [Prod.ext h.1 h.2.1, ih h.2.2]

theorem flat_length (l : List (Bytes × Bytes)) : (flat l).length = 2 * l.length := by
  induction l with
  | nil => rfl
  | cons a r ih => simp only [flat_cons, List.length_cons, ih]; omega

/-- what `formatLabels` writes for a key or a value when both separators are `sep` -/
def esc (sep : UInt8) (rep x : Bytes) : Bytes := replace1 sep rep (replace1 sep rep x)

theorem esc_no_sep (sep : UInt8) (rep x : Bytes) (h : sep ∉ rep) : sep ∉ esc sep rep x :=
  replace1_no_old sep rep _ h

theorem esc_id (sep : UInt8) (rep : Bytes) {x : Bytes} (h : sep ∉ x) : esc sep rep x = x := by
  rw [esc, replace1_id sep rep x h, replace1_id sep rep x h]

theorem insertSorted_perm (p : Bytes × Bytes) (s : List (Bytes × Bytes)) : (insertSorted p s).Perm (p :: s) := by
  induction s with
  | nil => exact .refl _
  | cons q rest ih =>
    simp only [insertSorted]
    split
    · exact (ih.cons q).trans (.swap ..)
    · exact .refl _

theorem sortByKey_perm (l : List (Bytes × Bytes)) : (sortByKey l).Perm l := by
  induction l with
  | nil => exact .refl _
  | cons a r ih => exact (insertSorted_perm a _).trans (ih.cons a)

theorem formatLabels_cons (name : Bytes) (a : Bytes × Bytes) (r : List (Bytes × Bytes)) (sep : UInt8) (rep : Bytes) :
    formatLabels name (a :: r) sep sep rep = name ++ [sep] ++
      [sep].intercalate (flat ((sortByKey (a :: r)).map fun kv => (esc sep rep kv.1, esc sep rep kv.2))) := by
  simp only [formatLabels, List.isEmpty_cons, Bool.false_eq_true, if_false]
  rw [intercalate_eq, ← intercalate_pairs, List.map_map]
  rfl

theorem formatLabels_determines (name : Bytes) {m1 m2 : List (Bytes × Bytes)} (sep : UInt8) (rep : Bytes)
    (hrep : sep ∉ rep) (h : formatLabels name m1 sep sep rep = formatLabels name m2 sep sep rep) :
    (sortByKey m1).map (fun kv => (esc sep rep kv.1, esc sep rep kv.2)) =
    (sortByKey m2).map (fun kv => (esc sep rep kv.1, esc sep rep kv.2)) := by
  let f := fun kv : Bytes × Bytes => (esc sep rep kv.1, esc sep rep kv.2)
  have hns : ∀ (l : List (Bytes × Bytes)), ∀ x ∈ flat (l.map f), sep ∉ x := by
    simp only [flat, List.mem_flatMap, List.mem_map]
    rintro l x ⟨_, ⟨kv, _, rfl⟩, hx⟩
    simp only [List.mem_cons, List.mem_nil_iff, or_false] at hx
    rcases hx with rfl | rfl <;> exact esc_no_sep sep rep _ hrep
  have hne : ∀ a r, flat ((sortByKey (a :: r)).map f) ≠ [] := fun a r =>
    List.ne_nil_of_length_pos (by rw [flat_length, List.length_map, (sortByKey_perm _).length_eq]; simp)
  match m1, m2 with
  | [], [] => rfl
  -- the name of the empty label set is the bare metric name, any other is longer
  | [], b :: r2 => simp [formatLabels] at h
  | a :: r, [] => simp [formatLabels] at h
  | a :: r, b :: r2 =>
    rw [formatLabels_cons, formatLabels_cons] at h
    -- `List.splitOn` undoes the joining, the separator being in none of the pieces
    have hs := congrArg (·.splitOn sep) (List.append_cancel_left h)
    rw [List.splitOn_intercalate sep (hns _) (hne a r), List.splitOn_intercalate sep (hns _) (hne b r2)] at hs
    exact flat_inj hs

theorem formatLabels_injective (name : Bytes) {m1 m2 : List (Bytes × Bytes)} (sep : UInt8) (rep : Bytes)
    (hrep : sep ∉ rep)
    (h1 : ∀ kv ∈ m1, sep ∉ kv.1 ∧ sep ∉ kv.2) (h2 : ∀ kv ∈ m2, sep ∉ kv.1 ∧ sep ∉ kv.2)
    (h : formatLabels name m1 sep sep rep = formatLabels name m2 sep sep rep) :
    sortByKey m1 = sortByKey m2 := by
  -- escaping changes nothing in keys and values that hold no separator
  have idm : ∀ l : List (Bytes × Bytes), (∀ kv ∈ l, sep ∉ kv.1 ∧ sep ∉ kv.2) →
      (sortByKey l).map (fun kv => (esc sep rep kv.1, esc sep rep kv.2)) = sortByKey l := fun l hl =>
    (List.map_congr_left fun kv hkv => by
      have := hl kv ((sortByKey_perm l).mem_iff.mp hkv)
      rw [esc_id sep rep this.1, esc_id sep rep this.2]).trans (List.map_id' _)
  have hd := formatLabels_determines name sep rep hrep h
  rwa [idm m1 h1, idm m2 h2] at hd

theorem not_mem_us {sep : UInt8} (hsep : sep = dot ∨ sep = dash) : sep ∉ us := by
  rcases hsep with rfl | rfl <;> decide

/-- the push loop is the handler loop on the metrics that are not text -/
theorem pushAll_eq (f : FMetric → FLabelSet → List Bytes) (ms : List FMetric) :
    pushAll f ms = handleAll f (ms.filter (fun m => m.kind ≠ 4)) := by
  unfold pushAll handleAll
  induction ms with
  | nil => rfl
  | cons m rest ih => by_cases hk : m.kind = 4 <;> simp [hk, ih]

end MtailVerif.Formats
