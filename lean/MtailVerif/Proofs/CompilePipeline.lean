import MtailVerif.Model.CompilePipeline
/-! What Compile returns, whatever its stages do: `compile` is a chain of `Ret.andThen`, so a
    property of its result (`ExactlyOne`, `ErrNonEmpty`) need only be shown of an error a stage
    hands back and of what CodeGen returns (`compile_ind`). -/
namespace MtailVerif.CompilePipeline

def ExactlyOne {α : Type} (r : Ret α) : Prop := (r.val.isSome ∧ r.err = none) ∨ (r.val = none ∧ r.err.isSome)

def ErrNonEmpty {α : Type} (r : Ret α) : Prop := ∀ l, r.err = some l → l ≠ []

theorem passRet_cases {α : Type} (errors : List String) (node : α) :
    (passRet errors node = ⟨some node, none⟩ ∧ errors = []) ∨
    (passRet errors node = ⟨some node, some errors⟩ ∧ errors ≠ []) := by
  unfold passRet
  cases errors with
  | nil => left; simp
  | cons e es => right; simp

theorem codegenRet_exactlyOne {β : Type} {errors : List String} {obj : β} : ExactlyOne (codegenRet errors obj) := by
  unfold codegenRet ExactlyOne
  cases errors <;> simp

theorem codegenRet_errNonEmpty {β : Type} {errors : List String} {obj : β} : ErrNonEmpty (codegenRet errors obj) := by
  unfold codegenRet ErrNonEmpty
  cases errors <;> simp

def Ret.andThen {α β : Type} (r : Ret α) (k : α → Ret β) : Ret β :=
  match r.err, r.val with
  | some e, _ => ⟨none, some e⟩
  | none, none => ⟨none, none⟩
  | none, some a => k a

theorem compile_eq {S A O : Type} (st : Stages S A O) (optimisation : Bool) (src : S) :
    compile st optimisation src =
      (parseRet (st.parse src).1 (st.parse src).2.1 (st.parse src).2.2).andThen fun a0 =>
      (if optimisation then passRet (st.optimise a0).1 (st.optimise a0).2 else ⟨some a0, none⟩).andThen fun a1 =>
      (passRet (st.check a1).1 (st.check a1).2).andThen fun a2 =>
      (if optimisation then passRet (st.optimise a2).1 (st.optimise a2).2 else ⟨some a2, none⟩).andThen fun a3 =>
      codegenRet (st.codegen a3).1 (st.codegen a3).2 :=
  rfl

/-- What holds of every error a stage can hand back (a non-empty list; from the parser also its
    list when goyacc gave up) and of whatever CodeGen returns holds of what Compile returns. -/
theorem compile_ind {S A O : Type} (st : Stages S A O) (optimisation : Bool) (src : S) {P : Ret O → Prop}
    (herr : ∀ e, e ≠ [] ∨ (e = (st.parse src).2.1 ∧ (st.parse src).1 ≠ 0) → P ⟨none, some e⟩)
    (hgen : ∀ a, P (codegenRet (st.codegen a).1 (st.codegen a).2)) : P (compile st optimisation src) := by
  have pass : ∀ (es : List String) (a : A) (k : A → Ret O), (∀ a, P (k a)) → P ((passRet es a).andThen k) := by
    intro es a k hk
    rcases passRet_cases es a with ⟨h, _⟩ | ⟨h, hne⟩ <;> rw [h]
    · exact hk a
    · exact herr es (.inl hne)
  have opt : ∀ (a : A) (k : A → Ret O), (∀ a, P (k a)) →
      P ((if optimisation then passRet (st.optimise a).1 (st.optimise a).2 else ⟨some a, none⟩).andThen k) := by
    intro a k hk
    cases optimisation
    · exact hk a
    · exact pass _ _ k hk
  rw [compile_eq, parseRet]
  by_cases h : (st.parse src).1 ≠ 0 ∨ (st.parse src).2.1 ≠ []
  · rw [if_pos h]; exact herr _ (h.elim (fun h0 => .inr ⟨rfl, h0⟩) .inl)
  · rw [if_neg h]; exact opt _ _ fun a1 => pass _ _ _ fun a2 => opt a2 _ hgen

end MtailVerif.CompilePipeline
