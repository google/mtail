/-! Lists keyed by a field.  First-match lookup and delete are core's `List.find?` and `List.eraseP`,
    with their lemmas; first-match update is `modP`.  The metric's index, slice and ordered map, and
    the loader's tables, are all lists of this kind. -/
namespace MtailVerif
variable {α β κ : Type}

def modP (p : α → Bool) (f : α → α) : List α → List α
  | [] => []
  | a :: l => if p a then f a :: l else a :: modP p f l

section congr
variable {p q : α → Bool} {l : List α}

theorem find?_congr (h : ∀ a ∈ l, p a = q a) : l.find? p = l.find? q := by
  induction l with
  | nil => rfl
  | cons a l ih => simp [List.find?_cons, h a, ih fun b hb => h b (.tail _ hb)]

theorem eraseP_congr (h : ∀ a ∈ l, p a = q a) : l.eraseP p = l.eraseP q := by
  induction l with
  | nil => rfl
  | cons a l ih => simp [List.eraseP_cons, h a, ih fun b hb => h b (.tail _ hb)]

theorem modP_congr {f : α → α} (h : ∀ a ∈ l, p a = q a) : modP p f l = modP q f l := by
  induction l with
  | nil => rfl
  | cons a l ih => simp [modP, h a, ih fun b hb => h b (.tail _ hb)]
end congr

theorem map_modP (p : α → Bool) (f : α → α) (g : α → β) (hg : ∀ a, g (f a) = g a) (l : List α) :
    (modP p f l).map g = l.map g := by
  induction l with
  | nil => rfl
  | cons a l ih => simp only [modP]; split <;> simp [hg, ih]

theorem modP_map (p : β → Bool) (f : α → α) (g : β → β) (h : α → β) (hfg : ∀ a, h (f a) = g (h a))
    (l : List α) : modP p g (l.map h) = (modP (p ∘ h) f l).map h := by
  induction l with
  | nil => rfl
  | cons a l ih => simp only [List.map_cons, modP, Function.comp]; split <;> simp [hfg, ih]

theorem forall_mem_modP {P : α → Prop} {p : α → Bool} {f : α → α} (hf : ∀ a, P a → P (f a)) {l : List α}
    (h : ∀ a ∈ l, P a) : ∀ b ∈ modP p f l, P b := by
  induction l with
  | nil => exact nofun
  | cons a l ih =>
    have ⟨ha, hl⟩ := List.forall_mem_cons.mp h
    simp only [modP]
    split
    · exact List.forall_mem_cons.mpr ⟨hf a ha, hl⟩
    · exact List.forall_mem_cons.mpr ⟨ha, ih hl⟩

theorem modP_append_of_forall_not {p : α → Bool} (f : α → α) {l : List α} (h : ∀ b ∈ l, ¬ p b) (a : α)
    (ha : p a = true) : modP p f (l ++ [a]) = l ++ [f a] := by
  induction l with
  | nil => simp [modP, ha]
  | cons b l ih =>
    have ⟨hb, hl⟩ := List.forall_mem_cons.mp h
    simp [modP, hb, ih hl]

theorem find?_modP {p q : α → Bool} {f : α → α} (hq : ∀ a, q (f a) = q a) (hpq : ∀ a, p a = true → q a = false)
    (l : List α) : (modP p f l).find? q = l.find? q := by
  induction l with
  | nil => rfl
  | cons a l ih =>
    by_cases h : p a = true
    · simp [modP, h, hq, hpq a h]
    · simp [modP, h, List.find?_cons, ih]

theorem find?_eraseP {p q : α → Bool} (hpq : ∀ a, p a = true → q a = false) (l : List α) :
    (l.eraseP p).find? q = l.find? q := by
  induction l with
  | nil => rfl
  | cons a l ih =>
    simp only [List.eraseP_cons]
    cases h : p a
    · simp [List.find?_cons, ih]
    · simp [hpq a h]

theorem eq_of_nodup_map {g : α → β} {l : List α} (hn : (l.map g).Nodup) {a b : α} (ha : a ∈ l) (hb : b ∈ l)
    (h : g a = g b) : a = b := by
  induction l with
  | nil => cases ha
  | cons c l ih =>
    have hc : ∀ x ∈ l, g c ≠ g x := fun x hx e => (List.nodup_cons.mp hn).1 (e ▸ List.mem_map_of_mem hx)
    cases ha with
    | head => cases hb with
      | head => rfl
      | tail _ hb => exact absurd h (hc b hb)
    | tail _ ha => cases hb with
      | head => exact absurd h.symm (hc a ha)
      | tail _ hb => exact ih (List.nodup_cons.mp hn).2 ha hb

theorem nodup_map_concat {g : α → β} {l : List α} {a : α} (hn : (l.map g).Nodup) (ha : ∀ x ∈ l, g x ≠ g a) :
    ((l ++ [a]).map g).Nodup := by
  rw [List.map_append, List.nodup_append]
  refine ⟨hn, by simp, fun b hb c hc => ?_⟩
  obtain ⟨x, hx, rfl⟩ := List.mem_map.mp hb
  cases List.mem_singleton.mp hc
  exact ha x hx

section table
variable [DecidableEq κ]

theorem find?_key {g : α → κ} {k : κ} {l : List α} {a : α} (h : l.find? (g · = k) = some a) : a ∈ l ∧ g a = k :=
  ⟨List.mem_of_find?_eq_some h, by simpa using List.find?_some h⟩

theorem mem_of_find?_fst {l : List (κ × β)} {k : κ} {v : β} (h : (l.find? (·.1 = k)).map (·.2) = some v) :
    (k, v) ∈ l := by
  obtain ⟨e, he, rfl⟩ := Option.map_eq_some_iff.mp h
  obtain ⟨hm, rfl⟩ := find?_key he
  exact hm

theorem find?_map_key {f : κ × β → κ × β} (hf : ∀ p, (f p).1 = p.1) (l : List (κ × β)) (k : κ) :
    (l.map f).find? (·.1 = k) = (l.find? (·.1 = k)).map f := by
  rw [List.find?_map]; congr 2; funext p; simp [hf]

/-- the `if` is Go's `t[k] = v` as `Store.set`, `setHandle` and `Witness.put` write it: replace in place, else append -/
theorem find?_put (l : List (κ × β)) (k k' : κ) (v : β) :
    (if l.any (·.1 = k) then l.map (fun p => if p.1 = k then (k, v) else p) else l ++ [(k, v)]).find? (·.1 = k')
      = if k' = k then some (k, v) else l.find? (·.1 = k') := by
  by_cases ha : l.any (·.1 = k) = true
  · -- replaced in place: what the lookup of `k'` finds has the key `k'`, so it is replaced iff `k' = k`
    rw [if_pos ha, find?_map_key fun p => by split <;> simp [*]]
    cases hf : l.find? (·.1 = k') with
    | none =>
      obtain ⟨p, hp, hpk⟩ := List.any_eq_true.mp ha
      have : k' ≠ k := fun e => List.find?_eq_none.mp hf p hp (e ▸ hpk)
      simp [this]
    | some q => simp only [Option.map_some, (find?_key hf).2]; split <;> rfl
  · -- appended: `l` has no entry under `k`
    rw [if_neg ha, List.find?_append]
    by_cases hk : k' = k
    · subst hk
      have : l.find? (·.1 = k') = none :=
        List.find?_eq_none.mpr fun p hp hpk => ha (List.any_eq_true.mpr ⟨p, hp, hpk⟩)
      simp [this]
    · cases l.find? (·.1 = k') <;> simp [Ne.symm hk, hk]
end table

end MtailVerif
