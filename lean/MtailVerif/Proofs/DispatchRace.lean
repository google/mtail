import MtailVerif.Model.DispatchRace
/-! A dispatcher that sends while it holds the read lock never sends on a closed channel, whatever
    the loaders do: a target is held only under the lock and is the installed generation
    (`Inv.tgt`), a loader closes a generation only while the dispatcher does not hold the lock
    (`Inv.excl`), and the installed generation is open (`Inv.open_`).  One schedule shows what a
    dispatcher that sends after the unlock runs into. -/
namespace MtailVerif.DispatchRace

/-- what holds in every reachable state of the code's discipline -/
structure Inv (s : S) : Prop where
  nobad : s.bad = false
  excl : s.dLocked = true → s.lLocked = false
  tgt : ∀ g, s.target = some g → s.dLocked = true ∧ g = s.gen
  open_ : s.gen ∉ s.closed
  below : ∀ g ∈ s.closed, g < s.gen
  sentOpen : ∀ g ∈ s.sent, g ≤ s.gen

theorem inv_init : Inv {} := by
  constructor <;> simp

theorem inv_step (s : S) (a : Act) (h : Inv s) : Inv (step true s a) := by
  -- an action that is not enabled leaves the state, and so the invariant, as it is
  cases a with simp only [step]
  | dLock =>
    split
    · next hc =>
      simp only [Bool.and_eq_true, Bool.not_eq_true', Option.isNone_iff_eq_none] at hc
      exact { h with excl := fun _ => hc.1.1, tgt := fun g hg => by simp [hc.2] at hg }
    · exact h
  | dSnap =>
    split
    · next hc =>
      simp only [Bool.and_eq_true, Option.isNone_iff_eq_none] at hc
      exact { h with tgt := fun g hg => ⟨hc.1, (Option.some.inj hg).symm⟩ }
    · exact h
  | dSend =>
    split
    · exact h
    · next g hg =>
      -- the target was read under the lock: it is the installed generation, which is open
      obtain ⟨-, rfl⟩ := h.tgt g hg
      simp only [Bool.true_and, Bool.not_true, Bool.false_and, Bool.false_eq_true, if_false, if_neg h.open_]
      split
      · exact h
      · exact { h with tgt := nofun, sentOpen := List.forall_mem_cons.mpr ⟨Nat.le_refl _, h.sentOpen⟩ }
  | dUnlock =>
    split
    · exact h
    · split
      · exact h
      · next hc =>
        simp only [Bool.true_and, Bool.not_eq_true, Option.isSome_eq_false_iff, Option.isNone_iff_eq_none] at hc
        exact { h with excl := nofun, tgt := fun g hg => by simp [hc] at hg }
  | lLock =>
    split
    · next hc =>
      simp only [Bool.and_eq_true, Bool.not_eq_true'] at hc
      exact { h with
        excl := fun hd => by simp [hc.2] at hd
        tgt := fun g hg => by simpa [hc.2] using (h.tgt g hg).1 }
    · exact h
  | lSwap =>
    split
    · next hc =>
      have below : ∀ g ∈ s.gen :: s.closed, g < s.gen + 1 :=
        List.forall_mem_cons.mpr ⟨Nat.lt_succ_self _, fun g hg => Nat.lt_succ_of_lt (h.below g hg)⟩
      exact { h with
        -- the loader holds the lock, so the dispatcher has no target
        tgt := fun g hg => by simpa [hc] using h.excl (h.tgt g hg).1
        open_ := fun hm => Nat.lt_irrefl _ (below _ hm)
        below := below
        sentOpen := fun g hg => Nat.le_succ_of_le (h.sentOpen g hg) }
    · exact h
  | lUnlock => exact { h with excl := fun _ => rfl }

theorem inv_run (as : List Act) (s : S) (h : Inv s) : Inv (run true s as) :=
  List.foldlRecOn as (step true) h fun s hs a _ => inv_step s a hs

/-- **the code's discipline**: whatever the schedule of the dispatcher's and any number of
    loaders' steps, no line is ever sent on a closed channel -/
theorem send_under_lock_never_on_closed (as : List Act) : (run true {} as).bad = false :=
  (inv_run as {} inv_init).nobad

/-- and every line went to a generation that exists: none later than the installed one -/
theorem send_under_lock_to_installed (as : List Act) : ∀ g ∈ (run true {} as).sent, g ≤ (run true {} as).gen :=
  (inv_run as {} inv_init).sentOpen

/-- **a dispatcher that sends after releasing the lock**: the loader gets in between the copy and
    the send, and the line goes to a closed channel -/
theorem send_after_unlock_hits_closed :
    (run false {} [.dLock, .dSnap, .dUnlock, .lLock, .lSwap, .lUnlock, .dSend]).bad = true := by decide

/-- the same list of actions under the code's discipline, where those that are not enabled do
    nothing (`dUnlock` with the send outstanding, and so the loader's `lLock` and `lSwap`): nothing
    is sent on a closed channel, and when the loader is let in afterwards the line has gone to
    generation 0 -/
theorem that_schedule_under_lock :
    (run true {} [.dLock, .dSnap, .dUnlock, .lLock, .lSwap, .lUnlock, .dSend]).bad = false ∧
      (run true {} [.dLock, .dSnap, .dUnlock, .lLock, .lSwap, .lUnlock, .dSend, .dUnlock, .lLock, .lSwap, .lUnlock]).sent = [0] := by
  decide

end MtailVerif.DispatchRace
