import MtailVerif.Proofs.IRMachine
import MtailVerif.Proofs.IRStep
/-! Expressions: the generated code computes what the reference semantics says. -/
namespace MtailVerif.IR
open MtailVerif MtailVerif.VM

variable {o : Oracle} {p : Prog} {inp : Input}

theorem emit_len_eq (a b : List Instr) (x : Nat) : (a ++ b).length = a.length + b.length := by simp

section
variable {A B D : List Instr} {q L : Nat} {m : Bool} {c : Cfg} {r : R}

theorem liftE_bind (f : Bool) (r : R) (k : Cfg → R) :
    liftE f (r.bind k) = (liftE f r).andThen fun c' _ => liftE f (k c') := by
  cases r <;> rfl

theorem RunsE.seq {k : Cfg → R} (h1 : RunsE o p inp A q m c r) (h2 : ∀ c', RunsE o p inp B (q + A.length) m c' (k c')) :
    RunsE o p inp (A ++ B) q m c (r.bind k) := by
  unfold RunsE; rw [liftE_bind]
  exact Runs.seq h1 fun c' _ _ hm => hm ▸ h2 c'

theorem RunsE.nil : RunsE o p inp [] q m c (.ok c) := Runs.nil rfl

/-- one non-branching instruction in front of `B`: the VM's step is the step the semantics takes -/
theorem RunsE.instr {i : Instr} {k : Cfg → R} (hi : straight i = true)
    (h : ∀ c', RunsE o p inp B (q + 1) m c' (k c')) :
    RunsE o p inp (i :: B) q m c (afterStep (step o p inp i c.t c.st c.memo) k) := by
  intro hc hn
  have hs : step o p inp i (c.at q m) c.st c.memo = _ := step_indep o p inp i hi c.t c.st c.memo q m
  cases hr : step o p inp i c.t c.st c.memo with
  | mk res memo' =>
    rw [hr] at hs
    cases res with
    | next t' st' => exact Runs.step (c' := ⟨norm t', st', memo'⟩) hs (fun _ => rfl) (h _) hc hn
    | stop st' => exact Halts.stop (c := ⟨_, c.st, c.memo⟩) hc.head hs
    | err e st' => exact Halts.err (c := ⟨_, c.st, c.memo⟩) hc.head hs
    | fault f st' => exact Halts.fault (c := ⟨_, c.st, c.memo⟩) hc.head hs

theorem RunsE.prim : ∀ {is : List Instr}, is.all straight = true → ∀ {q : Nat} {m : Bool} {c : Cfg},
    RunsE o p inp is q m c (runPrim o p inp is c)
  | [], _, _, _, _ => RunsE.nil
  | _ :: _, h, _, _, _ => by
    simp only [List.all_cons, Bool.and_eq_true] at h
    exact RunsE.instr h.1 fun _ => RunsE.prim h.2

theorem RunsE.jcond {jm : Bool} (A B : List Instr) {k : Bool → Cfg → R} (hD : D = A ++ B) (eL : L = q + 1 + A.length)
    (hgo : ∀ c', RunsE o p inp D (q + 1) m c' (k false c'))
    (hskip : ∀ c', RunsE o p inp B L m c' (k true c')) :
    RunsE o p inp (J jm L :: D) q m c (branch jm c k) := by
  unfold RunsE; rw [liftE_branch]
  exact Runs.jcond A B hD eL hgo hskip

/-- `J (q+3); push (h false); jmp (q+4); push (h true)` pops the tested value `tk` and pushes `h tk`:
    `h` is `(!·)` for comparisons and `&&`, `id` for `||` -/
theorem RunsE.tail4 (jm : Bool) (h : Bool → Bool) {t1 t2 : Nat} (e1 : t1 = q + 3) (e2 : t2 = q + 4) :
    RunsE o p inp [J jm t1, iPushB (h false), iJmp t2, iPushB (h true)] q m c
      (branch jm c fun tk c' => .ok (pushB (h tk) c')) :=
  RunsE.jcond [iPushB (h false), iJmp t2] [iPushB (h true)] rfl e1
    (fun _ => Runs.push (Runs.jmp e2 rfl)) (fun _ => Runs.push RunsE.nil)

/-- the short-circuit operators: the first test jumps to the final `push (h true)` -/
theorem RunsE.short (jm : Bool) (h : Bool → Bool) {t1 t2 : Nat} {k : Cfg → R}
    (e1 : t1 = q + 1 + B.length + 3) (e2 : t2 = q + 1 + B.length + 4)
    (hB : ∀ c', RunsE o p inp B (q + 1) m c' (k c')) :
    RunsE o p inp (J jm t1 :: (B ++ [J jm t1, iPushB (h false), iJmp t2, iPushB (h true)])) q m c
      (branch jm c fun tk c2 => if tk then .ok (pushB (h true) c2) else
        (k c2).bind fun c3 => branch jm c3 fun tk2 c4 => .ok (pushB (h tk2) c4)) :=
  RunsE.jcond (B ++ [J jm t1, iPushB (h false), iJmp t2]) [iPushB (h true)] (by simp) (by simp; omega)
    (fun c' => (hB c').seq fun _ => RunsE.tail4 jm h (by omega) (by omega))
    (fun _ => Runs.push RunsE.nil)
end

mutual
theorem runs_E : ∀ (e : E), okE e = true → ∀ (q : Nat) (m : Bool) (c : Cfg),
    RunsE o p inp (emitE e q) q m c (evalE o p inp e c)
  | .prim is args, hok, q, m, c => by
    simp only [okE, Bool.and_eq_true] at hok
    obtain ⟨his, hargs⟩ := hok
    rw [emitE, evalE]
    exact (runs_Es args hargs q m c).seq fun _ => RunsE.prim his
  | .cmp ci jm a b, hok, q, m, c => by
    simp only [okE, Bool.and_eq_true] at hok
    obtain ⟨⟨hci, ha⟩, hb⟩ := hok
    simp only [emitE, evalE, List.append_assoc]
    exact (runs_E a ha q m c).seq fun c1 => (runs_E b hb _ m c1).seq fun c2 =>
      RunsE.seq (A := [ci]) (RunsE.prim (by simp [hci])) fun c3 =>
        RunsE.tail4 jm (!·) (by simp) (by simp)
  | .and a b, hok, q, m, c => by
    simp only [okE, Bool.and_eq_true] at hok
    obtain ⟨ha, hb⟩ := hok
    simp only [emitE, evalE, List.append_assoc]
    exact (runs_E a ha q m c).seq fun c1 =>
      RunsE.short false (!·) (by omega) (by omega) fun c2 => runs_E b hb _ m c2
  | .or a b, hok, q, m, c => by
    simp only [okE, Bool.and_eq_true] at hok
    obtain ⟨ha, hb⟩ := hok
    simp only [emitE, evalE, List.append_assoc]
    exact (runs_E a ha q m c).seq fun c1 =>
      RunsE.short true id (by omega) (by omega) fun c2 => runs_E b hb _ m c2
theorem runs_Es : ∀ (es : Es), okEs es = true → ∀ (q : Nat) (m : Bool) (c : Cfg),
    RunsE o p inp (emitEs es q) q m c (evalEs o p inp es c)
  | .nil, _, q, m, c => by
    rw [emitEs, evalEs]; exact RunsE.nil
  | .cons e es, hok, q, m, c => by
    simp only [okEs, Bool.and_eq_true] at hok
    obtain ⟨he, hes⟩ := hok
    simp only [emitEs, evalEs]
    exact (runs_E e he q m c).seq fun c1 => runs_Es es hes _ m c1
end

theorem sim_Es : ∀ (es : Es), okEs es = true → ∀ (tv : Thread) (c : Cfg),
    CodeAt p.code tv.pc (emitEs es tv.pc) → norm tv = c.t →
    Sim o p inp tv c (emitEs es tv.pc).length (evalEs o p inp es c) :=
  fun es hok tv c => (runs_Es es hok tv.pc tv.matched c).sim

end MtailVerif.IR
