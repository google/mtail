import MtailVerif.Model.Lockset
import MtailVerif.Proofs.Lists
/-! Two separate facts.  A table is conflict free if it is so location by location
    (`conflictFree_of_locs`: what makes the check of the regenerated table affordable).  And in every
    run the accesses in progress hold pairwise compatible locksets (`Inv`): `step` admits an access
    only if it excludes none of the others, and `exclude` is symmetric.  `no_race_of_conflictFree`
    puts the second together with conflict freedom of the table. -/
namespace MtailVerif.Lockset

theorem pairOK_of_loc_ne {a b : Acc} (h : a.loc ≠ b.loc) : pairOK a b = true := by
  simp [pairOK, racePair, h]

theorem conflictFree_of_locs (t : List Acc) (n : Nat) (hloc : (t.all fun a => a.loc < n) = true)
    (h : ((List.range n).all fun l => conflictFree (t.filter (·.loc == l))) = true) :
    conflictFree t = true := by
  simp only [conflictFree, List.all_eq_true, List.mem_range, List.mem_filter, beq_iff_eq,
    decide_eq_true_eq] at hloc h ⊢
  intro a ha b hb
  by_cases hab : a.loc = b.loc
  · exact h a.loc (hloc a ha) a ⟨ha, rfl⟩ b ⟨hb, hab.symm⟩
  · exact pairOK_of_loc_ne hab

theorem exclude_symm (a b : Acc) : exclude a b = exclude b a := by
  unfold exclude
  rw [Bool.eq_iff_iff]
  simp only [List.any_eq_true, Bool.and_eq_true, Bool.or_eq_true, beq_iff_eq]
  constructor <;>
  · rintro ⟨la, hla, lb, hlb, h1, h2⟩
    exact ⟨lb, hlb, la, hla, h1.symm, h2.symm⟩

def Inv (s : St) : Prop :=
  ∀ (i j : Nat) (a b : Acc), i ≠ j → s[i]? = some (some a) → s[j]? = some (some b) → exclude a b = false

theorem mem_others {s : St} {i j : Nat} {b : Acc} (hij : j ≠ i) (h : s[j]? = some (some b)) : b ∈ others s i := by
  unfold others
  simp only [List.mem_filterMap]
  refine ⟨(some b, j), ?_, by simp [hij]⟩
  rw [List.mem_zipIdx_iff_getElem?]
  simpa using h

/-- slot `i` changes hands: the invariant survives if the access that enters it, if any, excludes none
    of those in progress in the other slots -/
theorem Inv.set {s : St} (hi : Inv s) (i : Nat) (x : Option Acc)
    (hx : ∀ a, x = some a → ∀ b ∈ others s i, exclude a b = false) : Inv (s.set i x) := by
  intro p q c d hpq hp hq
  -- each of `p`, `q` is the slot that changed hands or one of the others: both, `p`, `q`, neither
  rcases getElem?_set_some hp with ⟨rfl, ec⟩ | hp' <;> rcases getElem?_set_some hq with ⟨rfl, ed⟩ | hq'
  · exact absurd rfl hpq
  · exact hx c ec.symm d (mem_others (Ne.symm hpq) hq')
  · exact exclude_symm c d ▸ hx d ed.symm c (mem_others hpq hp')
  · exact hi p q c d hpq hp' hq'

theorem inv_step {s s' : St} {x : Act} (hi : Inv s) (h : step s x = some s') : Inv s' := by
  cases x with
  | enter i a =>
    simp only [step] at h
    split at h
    · obtain ⟨hall, rfl⟩ := Option.ite_some_none_eq_some.mp h
      refine hi.set i _ fun a' e b hb => ?_
      cases e
      simpa [compat] using List.all_eq_true.mp hall b hb
    · cases h
  | leave i =>
    simp only [step] at h
    split at h
    · cases h; exact hi.set i none nofun
    · cases h

theorem inv_run {s s' : St} (hi : Inv s) {xs : List Act} (h : run s xs = some s') : Inv s' :=
  inv_of_run (fun _ => rfl) (fun _ _ _ => rfl) inv_step hi h

theorem inv_idle (n : Nat) : Inv (List.replicate n none) := by
  intro i j a b _ hi _
  rw [List.getElem?_replicate] at hi
  split at hi <;> simp at hi

/-- the two facts together, for any table: accesses of a conflict-free table that two goroutines are
    inside at the same time, in a state reached from the idle one, do not race -/
theorem no_race_of_conflictFree {t : List Acc} (ht : conflictFree t = true) {n : Nat} {xs : List Act} {s : St}
    (h : run (List.replicate n none) xs = some s) {i j : Nat} {a b : Acc} (hij : i ≠ j)
    (hi : s[i]? = some (some a)) (hj : s[j]? = some (some b)) (ha : a ∈ t) (hb : b ∈ t)
    (hc : concurrent a b = true) : racePair a b = false := by
  have hex := inv_run (inv_idle n) h i j a b hij hi hj
  have hok := List.all_eq_true.mp (List.all_eq_true.mp ht a ha) b hb
  simp only [pairOK, hc, hex, Bool.true_and, Bool.or_false, Bool.not_eq_true'] at hok
  exact hok

end MtailVerif.Lockset
