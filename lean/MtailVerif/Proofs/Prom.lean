import MtailVerif.Model.Prom
/-! `Exporter.Collect`: the label-set loop is a filter and a map; `GetBucketsCumByMax` permutes buckets
    with distinct bounds, so cumulating them ends at the sum of all counts. -/
namespace MtailVerif.Prom
open MtailVerif

theorem collectMetricLoop_eq (cfg : Config) (m : Metric) (l : List LabelSet) :
    collectMetricLoop cfg m l = (l.filter (representable cfg m)).map (sampleOf cfg m) := by
  induction l with
  | nil => rfl
  | cons ls rest ih =>
    simp only [collectMetricLoop, List.filter_cons]
    split <;> simp [ih]

def samplesOfMetric (cfg : Config) (m : Metric) : List Sample :=
  if m.kind = .text then [] else (m.lsets.filter (representable cfg m)).map (sampleOf cfg m)

def sumC (l : List (Buckets.FV × UInt64 × Nat)) : Nat := (l.map (·.2.2)).sum

theorem sumC_cons (p) (l : List (Buckets.FV × UInt64 × Nat)) : sumC (p :: l) = p.2.2 + sumC l := by
  simp [sumC]

theorem sumC_perm {l l' : List (Buckets.FV × UInt64 × Nat)} (h : l.Perm l') : sumC l = sumC l' := (h.map _).sum_nat

theorem insertByMax_perm (p : Buckets.FV × UInt64 × Nat) (l : List (Buckets.FV × UInt64 × Nat))
    (h : p.1 ∉ l.map (·.1)) : (insertByMax p l).Perm (p :: l) := by
  -- `insertByMax`: 1 the empty list; at `q :: rest` with numeric bounds, `p`'s is 2 equal to `q`'s (overwrite),
  -- 3 smaller (insert here), 4 larger (go on); 5 one of the two bounds is NaN (go on)
  fun_induction insertByMax p l
  case case1 | case3 => exact .refl _
  case case2 q _ _ hq hp => exact absurd (List.mem_map.mpr ⟨q, .head _, hq.trans hp.symm⟩) h
  case case4 ih | case5 ih => exact ((ih fun hm => h (.tail _ hm)).cons _).trans (.swap ..)

theorem foldl_insertByMax_perm (bs acc : List (Buckets.FV × UInt64 × Nat)) (hnd : ((bs ++ acc).map (·.1)).Nodup) :
    (bs.foldl (fun acc p => insertByMax p acc) acc).Perm (bs ++ acc) := by
  induction bs generalizing acc with
  | nil => exact .refl _
  | cons p rest ih =>
    have hp : (insertByMax p acc).Perm (p :: acc) := insertByMax_perm p acc fun hm =>
      (List.nodup_cons.mp hnd).1 (by simp at hm ⊢; exact .inr hm)
    have h2 : (rest ++ insertByMax p acc).Perm (p :: (rest ++ acc)) := (hp.append_left rest).trans List.perm_middle
    exact (ih _ (((h2.map _).nodup_iff).mpr hnd)).trans h2

/-- with the bound by the start value, which the induction step needs -/
theorem cumulate_mono (acc : Nat) (l : List (Buckets.FV × UInt64 × Nat)) :
    (∀ x ∈ cumulate acc l, acc ≤ x.2) ∧ (cumulate acc l).Pairwise (fun a b => a.2 ≤ b.2) := by
  induction l generalizing acc with
  | nil => simp [cumulate]
  | cons p rest ih =>
    obtain ⟨hge, hpw⟩ := ih (acc + p.2.2)
    refine ⟨?_, List.pairwise_cons.mpr ⟨hge, hpw⟩⟩
    intro x hx
    rcases List.mem_cons.mp hx with rfl | hx
    · exact Nat.le_add_right ..
    · exact Nat.le_trans (Nat.le_add_right ..) (hge x hx)

theorem cumulate_last (acc : Nat) (l : List (Buckets.FV × UInt64 × Nat)) :
    ∀ x, (cumulate acc l).getLast? = some x → x.2 = acc + sumC l := by
  induction l generalizing acc with
  | nil => simp [cumulate]
  | cons p rest ih =>
    intro x hx
    cases rest with
    | nil => simp [cumulate] at hx; subst hx; simp [sumC]
    | cons q r => rw [ih (acc + p.2.2) x (by simpa [cumulate] using hx), sumC_cons p, Nat.add_assoc]

end MtailVerif.Prom
