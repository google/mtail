import MtailVerif.Proofs.ScopeFires
/-! `next` outside a decorator definition is rejected wherever it stands. -/
namespace MtailVerif.Scope
open MtailVerif MtailVerif.Ast

abbrev Outside (s : St) : Prop := s.decoScopes = []

theorem stable_outside : Stable Outside := ⟨fun _ _ h => h, fun _ h => h, fun n b s h => by
  unfold substK; split <;> exact h⟩

theorem outside_of_length {a b : St} (hl : b.decoScopes.length = a.decoScopes.length) (h : Outside a) : Outside b :=
  List.eq_nil_of_length_eq_zero (by rw [hl, h]; rfl)

theorem keeps_outside {f : St → St} (hv : ∀ s, Visit s (f s)) : Keeps Outside f :=
  .of_visit hv fun _ hl _ => outside_of_length hl

mutual
/-- does the tree contain a `next` that is not inside a decorator definition? -/
def hasNextOutside : Node → Bool
  | .next _ => true
  | .decodecl _ _ _ => false
  | .stmts cs => hasNextOutsideList cs
  | .exprs cs => hasNextOutsideList cs
  | .cond c t e => hasNextOutside c || hasNextOutside t || hasNextOutside e
  | .builtin _ args _ _ => hasNextOutside args
  | .bin _ l r _ => hasNextOutside l || hasNextOutside r
  | .un _ e _ _ => hasNextOutside e
  | .idx lhs index _ => hasNextOutside index || hasNextOutside lhs
  | .patexpr e _ => hasNextOutside e
  | .const (.id _ _ _) e _ => hasNextOutside e      -- the parser only builds constants named by an identifier
  | .deco _ block _ => hasNextOutside block
  | .del n _ _ => hasNextOutside n
  | .conv n _ => hasNextOutside n
  | _ => false
def hasNextOutsideList : Nodes → Bool
  | .nil => false
  | .cons n ns => hasNextOutside n || hasNextOutsideList ns
end

theorem fires_next (cfg : Cfg) (p : Pos) : FiresOn Outside (walk cfg (.next p)) :=
  FiresOn.guarded stable_outside.depth (firesOn_leave fun s _ h => by rw [doNext_outside p h]; exact lt_err s)

theorem next_fires_both (cfg : Cfg) : (∀ n, hasNextOutside n = true → FiresOn Outside (walk cfg n)) ∧
    ∀ ns, hasNextOutsideList ns = true → FiresOn Outside (walkList cfg ns) := by
  have S := stable_outside
  have K n := keeps_outside (walk_visit cfg n)
  -- one case per clause of `hasNextOutside`, in the order written there, then those of `hasNextOutsideList`
  apply hasNextOutside.mutual_induct
  case case1 => exact fun p _ => fires_next cfg p
  case case2 => exact fun _ _ _ => nofun
  case case3 => exact fun cs ih h => fires_stmts S (ih h)
  case case4 => exact fun cs ih h => fires_node S (ih h) .refl
  case case5 =>
    exact fun c t e ihc iht ihe h => fires_cond S (K c) (K t) ((of_or h).imp (fun h => (of_or h).imp ihc iht) ihe)
  case case6 => exact fun _ _ _ _ ih h => fires_builtin S (ih h)
  case case7 => exact fun _ l r _ ihl ihr h => fires_bin S (K l) ((of_or h).imp ihl ihr)
  case case8 => exact fun _ _ _ _ ih h => fires_node S (ih h) .refl
  case case9 => exact fun lhs index _ ihi ihl h => fires_idx S (K index) ((of_or h).imp ihi ihl)
  case case10 => exact fun e _ ih h => fires_patexpr S (K e) (.inl (ih h))
  case case11 =>
    exact fun _ _ _ _ _ ih h =>
      fires_const S (outside_of_length ((quiet_newSym ..).trans (quiet_insertTop ..)).decos) (ih h)
  case case12 =>
    exact fun _ _ _ ih h => fires_deco S (fun _ _ => outside_of_length (quiet_markUsed ..).decos) (ih h)
  case case13 => exact fun _ _ _ ih h => fires_node S (ih h) .refl
  case case14 => exact fun _ _ ih h => fires_node S (ih h) .refl
  case case15 => intros; simp only [hasNextOutside, Bool.false_eq_true, *] at *   -- `| _ => false`
  case case16 => exact nofun
  case case17 => exact fun n ns ihn ihns h => fires_cons (K n) ((of_or h).imp ihn ihns)

/-- `FiresOn Outside`: outside every decorator definition (and below the depth limit) `f` reports an error -/
def Fires (f : St → St) : Prop :=
  ∀ s, s.tooDeep = false → s.decoScopes = [] → s.errors.length < (f s).errors.length

theorem fires_of_eq {f g : St → St} (h : f = g) (hg : Fires g) : Fires f := h ▸ hg

/-- **`next` outside a decorator is rejected, wherever it stands** -/
theorem next_fires (cfg : Cfg) : ∀ (n : Node), hasNextOutside n = true → Fires (walk cfg n) := (next_fires_both cfg).1

theorem nextList_fires (cfg : Cfg) : ∀ (ns : Nodes), hasNextOutsideList ns = true → Fires (walkList cfg ns) :=
  (next_fires_both cfg).2

end MtailVerif.Scope
