import MtailVerif.Proofs.IRExpr
/-! Statements.  The semantics decides `otherwise` by a flag kept per block, the VM by its one
    matched register.  The register has to hold the flag only where an `otherwise` reads it:
    `runs_S` asks for `m = flag` on entry of an `otherwise` only, and `runs_Ss` on entry of a block
    only if an `otherwise` stands directly in it (`hasOtherwiseTop`).  What carries this from one
    statement of a block to the next is the postcondition of `runs_S`: if `m = flag` on entry of a
    statement that is no conditional with else, then behind it the register holds the flag the
    semantics goes on with.  An expression changes neither.  The body of a conditional or of an
    `otherwise` is framed by `setmatched false`, where the semantics starts the body's block with
    flag `false`, and `setmatched true`, where it goes on with flag `true`; when the body is skipped,
    register and flag are left as they were.  An else block has no such frame: it starts on the
    register of the block around it, where the semantics starts it with flag `false`, and behind it
    the register is what the else block left in it, where the semantics goes back to the flag of
    the block around it.  `okS` and `okSs` exclude the programs in which an `otherwise` would read
    the register in one of these two places: an `otherwise` directly in an else block, and one
    behind a conditional with else in the same block. -/
namespace MtailVerif.IR
open MtailVerif MtailVerif.VM

variable {o : Oracle} {p : Prog} {inp : Input}

section
variable {A B D X frag : List Instr} {q L : Nat} {m b flag : Bool} {c : Cfg} {P Q : Bool → Bool → Prop} {r : SR}

theorem SR.withFlag_eq (r : SR) (b : Bool) : r.withFlag b = r.andThen fun c' _ => .ok c' b := by
  cases r <;> rfl

/-- a weaker postcondition, for the flag that `withFlag` sets -/
theorem Runs.withFlag (h : Runs o p inp frag q m c Q r) (hP : ∀ f m', Q f m' → P b m') :
    Runs o p inp frag q m c P (r.withFlag b) := by
  rw [SR.withFlag_eq, ← List.append_nil frag]
  exact h.seq fun _ _ _ hQ => .nil (hP _ _ hQ)

theorem RunsE.lift {r : R} (h : RunsE o p inp frag q m c r) (hP : P flag m) :
    Runs o p inp frag q m c P (liftE flag r) := by
  rw [show liftE flag r = (liftE false r).withFlag flag by cases r <;> rfl]
  exact Runs.withFlag h fun _ _ hm => hm ▸ hP

/-- `jnm L; setmatched false; A; setmatched true; X`, where `X = X₁ ++ B` is either nothing or the
    jump `X₁` over the else part `B`, and `L` is where `B` lies -/
theorem Runs.guarded (X₁ B : List Instr) {rt rs : Cfg → SR} (hX : X = X₁ ++ B)
    (eL : L = q + 2 + A.length + 1 + X₁.length)
    (hA : ∀ c', Runs o p inp A (q + 2) false c' (fun _ _ => True) (rt c'))
    (hX₁ : ∀ c', Runs o p inp X (q + 2 + A.length + 1) true c' P (.ok c' true))
    (hB : ∀ c', Runs o p inp B L m c' P (rs c')) :
    Runs o p inp (iJnm L :: iSetm false :: (A ++ iSetm true :: X)) q m c P
      (condSkips (.ok c) fun skip c1 => if skip then rs c1 else (rt c1).withFlag true) := by
  rw [condSkips_ok]
  refine Runs.jcond (jm := false) (iSetm false :: (A ++ iSetm true :: X₁)) B (by simp [hX]) (by simp; omega)
    (fun c' => ?_) hB
  rw [SR.withFlag_eq]
  exact .setm false ((hA c').seq fun c'' _ _ _ => .setm true (hX₁ c''))

/-- the condition's code in front of its `jnm` -/
theorem Runs.condition {C : List Instr} {r : R} {k : Bool → Cfg → SR} (hC : RunsE o p inp C q m c r)
    (hD : ∀ c', Runs o p inp D (q + C.length) m c' P (condSkips (.ok c') k)) :
    Runs o p inp (C ++ D) q m c P (condSkips r k) := by
  rw [show condSkips r k = (liftE false r).andThen fun c' _ => condSkips (.ok c') k by cases r <;> rfl]
  exact Runs.seq hC fun c' _ _ hm => hm ▸ hD c'
end

mutual
theorem runs_S : ∀ (s : S), okS s = true → ∀ (q : Nat) (m : Bool) (c : Cfg) (flag : Bool),
    (isOtherwise s = true → m = flag) →
    Runs o p inp (emitS s q) q m c (fun f' m' => isCondElse s = false → m = flag → m' = f') (execS o p inp s c flag)
  | .expr e, hok, q, m, c, flag, _ => by
    rw [okS] at hok
    rw [emitS, execS]
    exact (runs_E e hok q m c).lift fun _ e => e
  | .cond cnd t, hok, q, m, c, flag, _ => by
    simp only [okS, Bool.and_eq_true] at hok
    obtain ⟨hokc, hokt⟩ := hok
    simp only [emitS, execS, List.append_assoc, List.cons_append, List.nil_append]
    exact .condition (runs_E cnd hokc q m c) fun _ => .guarded [] [] rfl (by simp)
      (fun c' => runs_Ss t hokt _ false c' false fun _ => rfl) (fun _ => .nil fun _ _ => rfl)
      (fun _ => .nil fun _ h => h)
  | .condElse cnd t e, hok, q, m, c, flag, _ => by
    simp only [okS, Bool.and_eq_true, Bool.not_eq_true'] at hok
    obtain ⟨⟨⟨hokc, hokt⟩, hoke⟩, hnoe⟩ := hok
    simp only [emitS, execS, List.append_assoc, List.cons_append, List.nil_append]
    exact .condition (runs_E cnd hokc q m c) fun _ => .guarded [iJmp _] _ rfl (by simp)
      (fun c' => runs_Ss t hokt _ false c' false fun _ => rfl)
      (fun _ => .jmp (by simp) fun h => by simp [isCondElse] at h)
      (fun c' => (runs_Ss e hoke _ m c' false fun h => by simp [hnoe] at h).withFlag
        fun _ _ _ h => by simp [isCondElse] at h)
  | .otherwise t, hok, q, m, c, flag, hm => by
    rw [okS] at hok
    obtain rfl := hm rfl
    simp only [emitS, execS, List.cons_append, List.nil_append]
    -- with `m` a constant, `condSkips` on the pushed `!m` computes to the `if flag` of `execS`
    cases m <;> exact .step (step_otherwise _ _ _) Cfg.withStack_norm
      (.guarded (rs := fun c1 => .ok c1 _) [] [] rfl (by simp)
        (fun c' => runs_Ss t hok _ false c' false fun _ => rfl) (fun _ => .nil fun _ _ => rfl)
        (fun _ => .nil fun _ _ => rfl))
theorem runs_Ss : ∀ (ss : Ss), okSs ss = true → ∀ (q : Nat) (m : Bool) (c : Cfg) (flag : Bool),
    (hasOtherwiseTop ss = true → m = flag) →
    Runs o p inp (emitSs ss q) q m c (fun _ _ => True) (execSs o p inp ss c flag)
  | .nil, _, q, m, c, flag, _ => by
    rw [emitSs, execSs]; exact .nil trivial
  | .cons s ss, hok, q, m, c, flag, hm => by
    simp only [okSs, Bool.and_eq_true, Bool.not_eq_true', Bool.and_eq_false_iff] at hok
    obtain ⟨⟨hoks, hokss⟩, hex⟩ := hok
    simp only [emitSs, execSs]
    exact (runs_S s hoks q m c flag fun h => hm (by simp [hasOtherwiseTop, h])).seq fun c' f' m' hP =>
      runs_Ss ss hokss _ m' c' f' fun hss =>
        hP (hex.resolve_right (by simp [hss])) (hm (by simp [hasOtherwiseTop, hss]))
end

def PS (s : S) (tv : Thread) (flag : Bool) : Bool → Thread → Prop :=
  fun flag' tv' => isCondElse s = false → tv.matched = flag → tv'.matched = flag'

theorem sim_S : ∀ (s : S), okS s = true → ∀ (tv : Thread) (c : Cfg) (flag : Bool),
    CodeAt p.code tv.pc (emitS s tv.pc) → norm tv = c.t → (isOtherwise s = true → tv.matched = flag) →
    SimS o p inp tv c (emitS s tv.pc).length (PS s tv flag) (execS o p inp s c flag) :=
  fun s hok tv c flag hc hn hm => (runs_S s hok tv.pc tv.matched c flag hm).sim rfl rfl hc hn

end MtailVerif.IR
