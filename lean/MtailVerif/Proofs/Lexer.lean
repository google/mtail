import MtailVerif.Model.Lexer
/-! How much input each state function consumes: the facts behind "the token stream ends".

    A state function that reads its first rune itself has a lemma `X_le`: it leaves at most the
    input it was given.  The parts of lexNumeric are entered with a rune in hand, which a `backup`
    may still give back; there the bound `b` is on input and cursor together (`Bnd b (i, c)`):
    `X_bnd` says that `X` hands on a pair within the same bound, `X_le` that it emits its token with
    at most `b` runes left, and `X_digit`, `X_dot` that a digit or `.` in hand is consumed, so that
    the bound is the length of the input alone. -/
namespace MtailVerif.Lexer

/-- 1 when the cursor holds a rune that `backup` would push back -/
def pend (c : C) : Nat := if c.rune.isSome then 1 else 0

def Bnd (b : Nat) (x : List R × C) : Prop := x.1.length + pend x.2 ≤ b

@[simp] theorem step_rune (c : C) : c.step.rune = c.rune := by unfold C.step; split <;> rfl
@[simp] theorem push_rune (c : C) (r : Nat) : (c.push r).rune = c.rune := rfl
@[simp] theorem accept_rune (c : C) : c.accept.rune = c.rune := by simp [C.accept]
@[simp] theorem skip_rune (c : C) : c.skip.rune = c.rune := by simp [C.skip]
@[simp] theorem ignore_rune (c : C) : c.ignore.rune = c.rune := by simp [C.ignore]
@[simp] theorem pend_step (c : C) : pend c.step = pend c := by simp [pend]
@[simp] theorem pend_push (c : C) (r : Nat) : pend (c.push r) = pend c := rfl
@[simp] theorem pend_accept (c : C) : pend c.accept = pend c := by simp [pend]
@[simp] theorem pend_skip (c : C) : pend c.skip = pend c := by simp [pend]
@[simp] theorem pend_ignore (c : C) : pend c.ignore = pend c := by simp [pend]
theorem pend_le (c : C) : pend c ≤ 1 := by unfold pend; split <;> omega
@[simp] theorem pend_readEOF (c : C) : pend (readEOF c) = 0 := rfl

theorem Bnd.len {b : Nat} {x : List R × C} (h : Bnd b x) : x.1.length ≤ b :=
  Nat.le_trans (Nat.le_add_right _ _) h

theorem Bnd.mono {b b' : Nat} {x : List R × C} (h : Bnd b x) (hb : b ≤ b') : Bnd b' x := Nat.le_trans h hb

theorem nextR_bnd (inp : List R) (c : C) : Bnd inp.length (nextR inp c) := by
  cases inp with
  | nil => simp [nextR, Bnd]
  | cons r rest => simp [nextR, Bnd]; have := pend_le (read r c); omega

theorem unread_len (c : C) (i : List R) : (unread c i).1.length = i.length + pend c := by
  unfold unread pend; split <;> simp_all

theorem unread_le {b : Nat} {i : List R} {c : C} (h : Bnd b (i, c)) : (unread c i).1.length ≤ b := by
  rw [unread_len]; exact h

/-- `nextR` does not look at the rune in hand -/
theorem Bnd.next {b : Nat} {i : List R} {c : C} (h : Bnd b (i, c)) (c' : C) : Bnd b (nextR i c') :=
  (nextR_bnd i c').mono h.len

theorem digitsLoop_nondigit {inp : List R} {c : C} (h : isDigitC c = false) : digitsLoop inp c = (inp, c) := by
  cases inp <;> simp [digitsLoop, h]

/-- a digit is accepted and the next rune read, which is `nextR` -/
theorem digitsLoop_bnd {b : Nat} : ∀ {inp : List R} {c : C}, Bnd b (inp, c) → Bnd b (digitsLoop inp c)
  | [], c, h => by
    rw [digitsLoop]; split
    · exact h.next c.accept
    · exact h
  | r :: rest, c, h => by
    rw [digitsLoop]; split
    · exact digitsLoop_bnd (h.next c.accept)
    · exact h

theorem digitsLoop_digit {inp : List R} {c : C} (hd : isDigitC c = true) : Bnd inp.length (digitsLoop inp c) := by
  cases inp with
  | nil => rw [digitsLoop, if_pos hd]; exact nextR_bnd [] c.accept
  | cons r rest => rw [digitsLoop, if_pos hd]; exact digitsLoop_bnd (nextR_bnd (r :: rest) c.accept)

/-- the rune that ends the word is read and backed up: `nextR`, then `unread` -/
theorem wordLoop_le {p : C → Bool} : ∀ (inp : List R) (c : C), (wordLoop p inp c).1.length ≤ inp.length
  | [], c => unread_le (nextR_bnd [] c)
  | r :: rest, c => by
    rw [wordLoop]; split
    · exact Nat.le_succ_of_le (wordLoop_le rest _)
    · exact unread_le (nextR_bnd (r :: rest) c)

theorem caprefLoop_le : ∀ (inp : List R) (c : C) (n : Bool), (caprefLoop inp c n).1.length ≤ inp.length
  | [], c, n => unread_le (nextR_bnd [] c)
  | r :: rest, c, n => by
    rw [caprefLoop]; simp only; split
    · exact Nat.le_succ_of_le (caprefLoop_le rest _ _)
    · exact unread_le (nextR_bnd (r :: rest) c)

@[simp] theorem emitAt_inp (c : C) (k : K) (i : List R) : (emitAt c k i).2.1 = i := rfl
@[simp] theorem emitAt_kind (c : C) (k : K) (i : List R) : (emitAt c k i).1.kind = k := rfl

theorem lexDuration_le (i : List R) (c : C) : (lexDuration i c).2.1.length ≤ i.length := wordLoop_le i c

theorem numEnd_le {b : Nat} {i : List R} {c : C} (h : Bnd b (i, c)) : (numEnd i c).2.1.length ≤ b := by
  unfold numEnd; split
  · exact Nat.le_trans (lexDuration_le i c.accept) h.len
  · exact unread_le h

theorem numExp_bnd {b : Nat} {i : List R} {c : C} (h : Bnd b (i, c)) : Bnd b (numExp i c) := by
  unfold numExp; split
  · apply digitsLoop_bnd; split
    · exact (h.next _).next _
    · exact h.next _
  · exact h

theorem numFrac_dot {i : List R} {c : C} (h : code c = 46) : Bnd i.length (numFrac i c) := by
  rw [numFrac, if_pos (by simp [h])]
  exact digitsLoop_bnd (nextR_bnd i c.accept)

theorem numFrac_bnd {b : Nat} {i : List R} {c : C} (h : Bnd b (i, c)) : Bnd b (numFrac i c) := by
  by_cases hc : code c = 46
  · exact (numFrac_dot hc).mono h.len
  · rwa [numFrac, if_neg (by simpa using hc)]

theorem numTail_le {b : Nat} {i : List R} {c : C} (h : Bnd b (i, c)) : (numTail i c).2.1.length ≤ b := by
  unfold numTail; simp only; split
  · exact unread_le h
  · exact numEnd_le (numExp_bnd (numFrac_bnd h))

theorem numTail_dot {i : List R} {c : C} (h : code c = 46) : (numTail i c).2.1.length ≤ i.length := by
  unfold numTail; rw [if_neg (by simp [h])]
  exact numEnd_le (numExp_bnd (numFrac_dot h))

theorem lexNumeric_le (inp : List R) (c : C) : (lexNumeric inp c).2.1.length ≤ inp.length :=
  numTail_le (digitsLoop_bnd (nextR_bnd inp c))

theorem read_rune (r : R) (c : C) : (read r c).rune = none ∨ (read r c).rune = some r := by
  unfold read; split <;> simp

/-- backing up over the rune just read and reading again gives the same cursor -/
theorem nextR_unread_read {r : R} {c : C} (rest : List R) (h : (read r c).rune = some r) :
    nextR (unread (read r c) rest).1 (unread (read r c) rest).2 = (rest, read r c) := by
  unfold unread; rw [h]
  unfold read at h ⊢
  split at h
  · cases h
  · simp [nextR, read, *]

theorem lexNumberFrom_le (r : R) (rest : List R) (c : C)
    (h : isDigitC (read r c) = true ∨ code (read r c) = 46) :
    (lexNumberFrom rest (read r c)).2.1.length ≤ rest.length := by
  have hr := (read_rune r c).resolve_left fun hn => by simp [isDigitC, code, hn] at h
  unfold lexNumberFrom lexNumeric
  simp only [nextR_unread_read rest hr]
  -- lexNumeric after its first read, with a digit or `.` in hand
  by_cases hd : isDigitC (read r c) = true
  · exact numTail_le (digitsLoop_digit hd)
  · rw [digitsLoop_nondigit (by simpa using hd)]
    exact numTail_dot (h.resolve_left hd)

theorem errorf_kind {c c' : C} {e r : Nat} {q : List Nat} {t : Tok} (h : c.errorf e r q = (t, c')) :
    t.kind = .INVALID := by cases h; rfl

/-- Both loops of `quotedLoop` give no input back, and end in an error or in the one token of
    their kind. -/
theorem quotedLoop_spec (close : Nat) (isRegex : Bool) (inp : List R) (c : C) :
    (quotedLoop close isRegex inp c).2.1.length ≤ inp.length ∧
    ((quotedLoop close isRegex inp c).1.kind = .INVALID ∨
     (quotedLoop close isRegex inp c).1.kind = if isRegex then .REGEX else .STRING) := by
  -- cases 3 and 8 are the two recursive calls, 6 and 7 the closing delimiter (backed up in a regular
  -- expression, skipped in a string), the others the error exits
  fun_induction quotedLoop close isRegex inp c
  case case3 ih | case8 ih => exact ⟨Nat.le_trans ih.1 (by simp <;> omega), ih.2⟩
  case case6 h _ _ hu =>
    obtain ⟨rfl, rfl⟩ := Prod.mk.inj hu
    exact ⟨unread_le (nextR_bnd (_ :: _) _), .inr (by simp [h])⟩
  case case7 h => exact ⟨by simp, .inr (by simp [h])⟩
  all_goals exact ⟨by simp <;> omega, .inl (errorf_kind ‹_›)⟩

theorem lexRegex_le (inp : List R) (c : C) : (lexRegex inp c).2.1.length ≤ inp.length :=
  (quotedLoop_spec _ _ inp c).1

theorem lexRegex_ne_div (inp : List R) (c : C) : (lexRegex inp c).1.kind ≠ .DIV := by
  rcases (quotedLoop_spec 47 true inp c).2 with h | h <;> simp [lexRegex, h]

theorem lexQuotedString_le (inp : List R) (c : C) : (lexQuotedString inp c).2.1.length ≤ inp.length :=
  (quotedLoop_spec _ _ inp _).1

theorem twoRune_le (rest : List R) (c1 : C) (alts : List (Int × K)) (d : Option K) (e : Nat) :
    (twoRune rest c1 alts d e).2.1.length ≤ rest.length := by
  have hb := nextR_bnd rest c1.accept
  fun_cases twoRune rest c1 alts d e
  · exact hb.len        -- the second rune completes an operator
  · exact unread_le hb  -- it does not and is backed up: the first rune alone is a token,
  · exact unread_le hb  -- or an error

theorem lexMinus_le (rest : List R) (c1 : C) : (lexMinus rest c1).2.1.length ≤ rest.length := by
  have hb := nextR_bnd rest c1.accept
  fun_cases lexMinus rest c1
  · exact hb.len                                           -- `--`
  · exact Nat.le_trans (lexNumeric_le _ _) (unread_le hb)  -- a digit follows: it is backed up for lexNumeric
  · exact unread_le hb                                     -- anything else is backed up

theorem lexCapref_le (inp : List R) (c : C) : (lexCapref inp c).2.1.length ≤ inp.length := caprefLoop_le inp _ _
theorem lexDecorator_le (inp : List R) (c : C) : (lexDecorator inp c).2.1.length ≤ inp.length := wordLoop_le inp _
theorem lexIdentifier_le (inp : List R) (c : C) : (lexIdentifier inp c).2.1.length ≤ inp.length := wordLoop_le inp _

/-- What a request guarantees: at most `n` runes are left, and the machine reports that it has
    stopped only together with an EOF token. -/
structure Step (n : Nat) (o : Out × Bool) : Prop where
  le : o.1.2.1.length ≤ n
  eof : o.2 = true → o.1.1.kind = .EOF

theorem Step.running {n : Nat} {o : Out} (h : o.2.1.length ≤ n) : Step n (o, false) := ⟨h, nofun⟩

theorem Step.mono {n m : Nat} {o : Out × Bool} (h : Step n o) (hnm : n ≤ m) : Step m o :=
  ⟨Nat.le_trans h.le hnm, h.eof⟩

theorem lexOther_step (r : R) (rest : List R) (c : C) : Step rest.length (lexOther r rest (read r c)) := by
  -- `fun_cases`, not `unfold` and `split`: splitting the `if`s below the two table lookups one
  -- by one is a hundred times dearer.  The branches of `lexOther` in its order, by what `r` is:
  fun_cases lexOther r rest (read r c)
  · exact .running (by simp)                                           -- a token by itself
  · exact .running (lexMinus_le _ _)                                   -- `-`
  · exact .running (twoRune_le _ _ _ _ _)                              -- the first rune of a two-rune operator
  · exact .running (lexQuotedString_le _ _)                            -- `"`
  · exact .running (lexCapref_le _ _)                                  -- `$`
  · exact .running (lexDecorator_le _ _)                               -- `@`
  · exact .running (lexNumberFrom_le r rest c (.inl ‹_›))              -- a digit
  · exact .running (lexIdentifier_le _ _)                              -- a letter
  · exact ⟨by simp, fun _ => rfl⟩                                      -- end of file: EOF, and the machine stops
  · exact .running (lexNumberFrom_le r rest c (.inr (eq_of_beq ‹_›)))  -- `.`
  · exact .running (by simp)                                           -- anything else: an error token

/-- **Progress.**  A request made outside a regular expression consumes at least one rune of a
    non-empty input (white space and comments it skips included), and stops only with EOF. -/
theorem nextToken_step (inp : List R) (c : C) : Step (inp.length - 1) (nextToken inp c false) := by
  generalize hf : false = f
  -- case 1 is a request inside a regular expression (not this one), 2 the empty input, 3 a newline,
  -- 4 a comment and 5 white space (skipped: the recursive calls), 6 any other rune
  fun_induction nextToken inp c f
  case case1 => cases hf
  case case2 => exact ⟨by simp, fun _ => rfl⟩
  case case3 => exact .running (by simp)
  case case4 ih => exact (ih rfl).mono (by simp only [List.length_cons] at *; omega)
  case case5 ih => exact (ih rfl).mono (by simp)
  case case6 => exact lexOther_step _ _ _

theorem nextToken_regex (inp : List R) (c : C) : nextToken inp c true = (lexRegex inp c, false) := by
  cases inp <;> (rw [nextToken]; rfl)

theorem nextToken_nil_stops (c : C) : (nextToken [] c false).2 = true := by
  rw [nextToken]; simp

/-- `k` requests in a row; `pol` is the parser: from the tokens delivered so far (newest first) it
    decides whether InRegex is set for the next request.  Stops with `true` when the lexer stops. -/
def drive (pol : List Tok → Bool) : Nat → List Tok → List R → C → List Tok × Bool
  | 0, hist, _, _ => (hist, false)
  | k + 1, hist, inp, c =>
    if (nextToken inp c (pol hist)).2 then ((nextToken inp c (pol hist)).1.1 :: hist, true)
    else drive pol k ((nextToken inp c (pol hist)).1.1 :: hist) (nextToken inp c (pol hist)).1.2.1
      (nextToken inp c (pol hist)).1.2.2

def headIsDiv : List Tok → Bool
  | t :: _ => t.kind == .DIV
  | [] => false

/-- parser.y sets InRegex only in the `in_regex` action, which stands right after a DIV token -/
def RegexAfterDivOnly (pol : List Tok → Bool) : Prop := ∀ hist, pol hist = true → headIsDiv hist = true

/-- twice the runes left, plus one while a regular expression may be requested -/
def phi (inp : List R) (hist : List Tok) : Nat := 2 * inp.length + (if headIsDiv hist then 1 else 0)

theorem phi_nil (inp : List R) : phi inp [] = 2 * inp.length := rfl

/-- a rune consumed pays for the request and for a DIV it may deliver -/
theorem phi_lt_of_consumed {inp inp' : List R} (hist hist' : List Tok) (h : inp'.length < inp.length) :
    phi inp' hist' < phi inp hist := by
  unfold phi; split <;> split <;> omega

/-- no rune need be consumed by a request behind a DIV that delivers no DIV -/
theorem phi_lt_of_div {inp inp' : List R} {hist hist' : List Tok} (h : inp'.length ≤ inp.length)
    (hd : headIsDiv hist = true) (hd' : headIsDiv hist' = false) : phi inp' hist' < phi inp hist := by
  simp only [phi, hd, hd', if_true, Bool.false_eq_true, if_false]; omega

theorem drive_stops (pol : List Tok → Bool) (hp : RegexAfterDivOnly pol) :
    ∀ (k : Nat) (hist : List Tok) (inp : List R) (c : C), phi inp hist < k →
      (drive pol k hist inp c).2 = true ∧ ∃ t rest, (drive pol k hist inp c).1 = t :: rest ∧ t.kind = .EOF := by
  intro k
  induction k with
  | zero => intro hist inp c h; omega
  | succ k ih =>
    intro hist inp c h
    rw [drive]
    cases hpol : pol hist with
    | false =>
      have st := nextToken_step inp c
      by_cases hs : (nextToken inp c false).2 = true
      · rw [if_pos hs]; exact ⟨rfl, _, _, rfl, st.eof hs⟩
      · rw [if_neg hs]
        have hpos : 0 < inp.length := List.length_pos_iff.mpr fun he => hs (he ▸ nextToken_nil_stops c)
        exact ih _ _ _ (Nat.lt_of_lt_of_le (phi_lt_of_consumed hist _ (by have := st.le; omega)) (Nat.le_of_lt_succ h))
    | true =>
      -- the request is for a regular expression: the token is not DIV, so the next request is an ordinary one
      rw [nextToken_regex]
      exact ih _ _ _ (Nat.lt_of_lt_of_le (phi_lt_of_div (lexRegex_le inp c) (hp hist hpol)
        (by simp [headIsDiv, lexRegex_ne_div])) (Nat.le_of_lt_succ h))

end MtailVerif.Lexer
