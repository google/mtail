import MtailVerif.Model.AcceptRace
import MtailVerif.Proofs.Lists
/-! Counted before `Accept`, no schedule has a handler send on the closed lines channel: every
    enabled action keeps `Inv`. -/
namespace MtailVerif.AcceptRace

/-- counting first: the count covers every handler and the connection being accepted; once the
    lines channel is closed there is no handler and none can start -/
def Inv (s : S) : Prop :=
  s.bad = false ∧
  s.count = s.handlers + (if s.apc = .inAccept ∨ s.apc = .accepted then 1 else 0) ∧
  (s.cpc = .linesClosed → s.handlers = 0 ∧ s.apc ≠ .accepted) ∧
  (s.cpc ≠ .waiting → s.listening = false)

theorem inv_init : Inv {} := by simp [Inv]

theorem inv_step (s s' : S) (a : Act) (hi : Inv s) (h : step true s a = some s') : Inv s' := by
  obtain ⟨hb, hc, hl, hw⟩ := hi
  -- `h` becomes: the action's guard holds and `s'` is the updated state
  cases a <;> simp only [step, if_true, Option.ite_some_none_eq_some, Option.some.injEq] at h
  case cancel => subst h; exact ⟨hb, hc, hl, hw⟩
  case closeListener =>
    obtain ⟨-, rfl⟩ := h
    exact ⟨hb, hc, nofun, fun _ => rfl⟩
  case closeLines =>
    obtain ⟨⟨hcpc, h0⟩, rfl⟩ := h
    refine ⟨hb, hc, fun _ => ?_, fun _ => hw (by simp [hcpc])⟩
    -- the count is zero: no handler, no connection being accepted
    by_cases hq : s.apc = .inAccept ∨ s.apc = .accepted
    · rw [if_pos hq] at hc; omega
    · rw [if_neg hq] at hc
      exact ⟨by dsimp only; omega, fun e => hq (Or.inr e)⟩
  case loopAdd =>
    obtain ⟨htop, rfl⟩ := h
    exact ⟨hb, by simp [hc, htop], fun hcl => ⟨(hl hcl).1, nofun⟩, hw⟩
  case acceptOk =>
    obtain ⟨⟨hin, hlis⟩, rfl⟩ := h
    refine ⟨hb, by simp [hc, hin], fun hcl => ?_, hw⟩
    -- the listener is still open, so the closer has not got as far as the lines channel
    have := hw (by rw [show s.cpc = _ from hcl]; decide)
    simp [hlis] at this
  case acceptFail =>
    obtain ⟨⟨hin, -⟩, rfl⟩ := h
    exact ⟨hb, by simp [hc, hin], fun hcl => ⟨(hl hcl).1, nofun⟩, hw⟩
  case spawn =>
    obtain ⟨hacc, rfl⟩ := h
    exact ⟨hb, by simp [hc, hacc], fun hcl => absurd hacc (hl hcl).2, hw⟩
  case send =>
    obtain ⟨hpos, rfl⟩ := h
    -- a handler is running, so the lines channel is not closed
    have : s.cpc ≠ .linesClosed := fun hcl => by have := (hl hcl).1; omega
    exact ⟨by simp [hb, this], hc, hl, hw⟩
  case finish =>
    obtain ⟨hpos, rfl⟩ := h
    refine ⟨hb, ?_, fun hcl => ?_, hw⟩
    · simp only [hc]; split <;> omega
    · have := hl hcl; exact ⟨by simp; omega, this.2⟩

/-- with the count taken before `Accept`, no schedule of cancellation, connecting clients,
    handlers and the closer ever has a handler send on the closed lines channel -/
theorem count_first_never_sends_on_closed (acts : List Act) (s : S) (h : run true {} acts = some s) :
    s.bad = false :=
  (inv_of_run (fun _ => rfl) (fun _ _ _ => rfl) (inv_step _ _ _) inv_init h).1

end MtailVerif.AcceptRace
