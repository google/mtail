import MtailVerif.Proofs.VMMemo
/-! The time register: what `Strptime` and `Settime` write to it, and who reads it. -/
namespace MtailVerif.VM
open MtailVerif

/-- `strptime(value, layout)`: on success the register holds what the library parses, whatever the
    memo contains (as long as it is coherent); on failure the line ends with the checked error -/
theorem strptime_sets_register (o : Oracle) (t : Thread) (st : MStore) (memo : Memo) (hc : Coherent o memo)
    (layout value : Bytes) (rest : List Val) (hstk : t.stack = .str layout :: .str value :: rest) :
    (stepStrptime o t st memo).1 =
      match o.timeParse layout value with
      | some tm => .next { t with stack := rest, time := tm } st
      | none => .err .timeParseFailed st := by
  rw [(stepStrptime_coherent o t st memo hc).1]
  simp only [stepStrptime, hstk, popString, memoGet]
  cases o.timeParse layout value <;> rfl

/-- `timestamp()` reads the register, or the wall clock when the register holds the zero time -/
theorem timestamp_reads_register (o : Oracle) (p : Prog) (inp : Input) (a : Operand) (t : Thread) (st : MStore) :
    stepCore o p inp ⟨.timestamp, a⟩ t st =
      .next { t with stack := .i64 (if t.time = zeroT then o.nowSec else t.time / 1000000000) :: t.stack } st := by
  dsimp only [stepCore]
  split <;> rfl

/-- `settime` takes whatever `PopInt` makes an integer of, in seconds -/
theorem settime_sets_register (o : Oracle) (p : Prog) (inp : Input) (a : Operand) (t : Thread) (st : MStore) {n : Int}
    {rest : List Val} (h : popInt o st t.dead t.stack = .ok n rest) :
    stepCore o p inp ⟨.settime, a⟩ t st = .next { t with stack := rest, time := n * 1000000000 } st := by
  dsimp only [stepCore]
  rw [h]; rfl

/-- after `settime(n)`, `timestamp()` returns `n`, for every `n` except the one second that is the
    zero time (year 1), which means "unset" -/
theorem timestamp_after_settime (o : Oracle) (p : Prog) (inp : Input) (t : Thread) (st : MStore) (n : Int)
    (hn : n ≠ -62135596800) (ht : t.time = n * 1000000000) :
    stepCore o p inp ⟨.timestamp, .none⟩ t st = .next { t with stack := .i64 n :: t.stack } st := by
  have h1 : t.time ≠ zeroT := fun h => by
    -- `omega` does not look through `T`
    have : n * 1000000000 = (-62135596800000000000 : Int) := ht ▸ h
    omega
  rw [timestamp_reads_register, if_neg h1, ht, Int.mul_ediv_cancel n (by decide)]

theorem stampOf_set (tm : T) (h : tm ≠ zeroT) : stampOf tm = some (wrap tm) := by simp [stampOf, h]

/-- inside the range of `UnixNano` the stamp is the instant itself -/
theorem wrap_id (x : Int) (h1 : -9223372036854775808 ≤ x) (h2 : x < 9223372036854775808) : wrap x = x := by
  unfold wrap; omega

end MtailVerif.VM
