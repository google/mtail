import MtailVerif.Proofs.VMVerify
/-! Soundness of one verified instruction: `astep` and `stepCore` have the same shape (typed pops,
    a check, one successor), and the proof walks both at once, in continuation-passing style. -/
namespace MtailVerif.VM.Verify
open MtailVerif MtailVerif.VM

/-- What a verified step may result in: a thread that some successor of `astep` describes; or the
    end of the line by `stop` or by a checked error, with the store well typed (the `dead` list is
    per line and is dropped).  Never the arity error: `astep` has checked the number of keys.
    Never a fault. -/
def ResOK (p : Prog) (succs : List (Nat × AStack)) : Res → Prop
  | .next t' st' => StoreOK p st' t'.dead ∧ ∃ x ∈ succs, t'.pc = x.1 ∧ sOK p st' t'.dead x.2 t'.stack
  | .stop st' => StoreOK p st' []
  | .err e st' => e ≠ .arity ∧ StoreOK p st' []
  | .fault _ _ => False

variable {p : Prog} {st : MStore} {dead : List (Nat × Metric.LV Datum)} {succs : List (Nat × AStack)}

theorem resOK_err {e : RtErr} (hs : StoreOK p st dead) (he : e ≠ .arity := by decide) : ResOK p succs (.err e st) :=
  ⟨he, hs.forget⟩

/-- One abstract pop and one concrete pop, taken together: `ka` and `k` are what `astep` and
    `stepCore` do next, and the continuation gets the rest of both, so no caller takes `ha` apart. -/
theorem PopSound.andThen {α : Type} {apop : AStack → Option AStack} {pop : List Val → P α}
    (hp : PopSound p st dead apop pop) (hs : StoreOK p st dead) {s : AStack} {vs : List Val}
    (h : sOK p st dead s vs) {ka : AStack → Option (List (Nat × AStack))} (ha : (apop s).bind ka = some succs)
    {k : α → List Val → Res}
    (hk : ∀ a rest s', sOK p st dead s' rest → ka s' = some succs → ResOK p succs (k a rest)) :
    ResOK p succs ((pop vs).andThen st k) := by
  obtain ⟨s', h1, h2⟩ := Option.bind_eq_some_iff.mp ha
  rcases hp h h1 with ⟨a, rest, e, hr⟩ | e <;> rw [e]
  · exact hk a rest s' hr h2
  · exact resOK_err hs

theorem PopSound.andThen₂ {α : Type} {apop : AStack → Option AStack} {pop : List Val → P α}
    (hp : PopSound p st dead apop pop) (hs : StoreOK p st dead) {s : AStack} {vs : List Val}
    (h : sOK p st dead s vs) {ka : AStack → Option (List (Nat × AStack))}
    (ha : ((apop s).bind apop).bind ka = some succs) {k : α → α → List Val → Res}
    (hk : ∀ b a rest s', sOK p st dead s' rest → ka s' = some succs → ResOK p succs (k b a rest)) :
    ResOK p succs ((pop vs).andThen st fun b r1 => (pop r1).andThen st fun a r2 => k b a r2) :=
  hp.andThen hs h (Option.bind_assoc .. ▸ ha) fun b _ _ hr ha => hp.andThen hs hr ha (hk b)

theorem keys_andThen (o : Oracle) (hs : StoreOK p st dead) (n : Nat) {s : AStack} {vs : List Val}
    (h : sOK p st dead s vs) {ka : AStack → Option (List (Nat × AStack))} (ha : (apopKeys p n s).bind ka = some succs)
    {k : List Bytes → List Val → Res}
    (hk : ∀ ks rest s', ks.length = n → sOK p st dead s' rest → ka s' = some succs → ResOK p succs (k ks rest)) :
    ResOK p succs ((popKeys o st dead n vs []).andThen st k) := by
  obtain ⟨s', h1, h2⟩ := Option.bind_eq_some_iff.mp ha
  obtain ⟨ks, rest, e, hr, hl⟩ := popKeys_total o hs n [] h h1
  rw [e]; exact hk ks rest s' (by simpa using hl) hr h2

/-- the leaf of every clause: `ha` is what is left of `astep`'s clause after the pops -/
theorem resOK_next {t' : Thread} {st' : MStore} {q : Nat} {s' : AStack} (hs : StoreOK p st' t'.dead)
    (ha : some [(q, s')] = some succs) (hpc : t'.pc = q) (hst : sOK p st' t'.dead s' t'.stack) :
    ResOK p succs (.next t' st') := by
  cases ha; exact ⟨hs, _, List.mem_singleton.mpr rfl, hpc, hst⟩

theorem resOK_pop {p : Prog} {st : MStore} {t : Thread} {pc : Nat} (hs : StoreOK p st t.dead)
    (hpc : t.pc = pc + 1) {s' : AStack} {rest : List Val} (hr : sOK p st t.dead s' rest) :
    ResOK p [(pc + 1, s')] (.next { t with stack := rest } st) :=
  resOK_next hs rfl hpc hr

theorem isBucketsPtr_eq (hs : StoreOK p st dead) {m k : Nat} {s : AStack} {vs : List Val}
    (h : sOK p st dead (.datum m :: s) vs) (hk : mtyp p m = some k) :
    isBucketsPtr st dead vs = decide (k = 3) := by
  obtain ⟨lv, rest, ⟨val, tm⟩, rfl, hd, hT, -⟩ := sOK_datum hs h
  cases hT.ty_eq hk
  simp only [isBucketsPtr, hd]
  cases val <;> rfl

/-- a write through the datum pointer on top of the stack, by an update that accepts the payload
    type of the metric and keeps it -/
theorem writeDatum_sound {t : Thread} {m : Nat} {r : AStack} {rest : List Val} {f : Datum → Option Datum}
    {kont : Thread → MStore → Datum → Res} (hs : StoreOK p st t.dead)
    (hr : sOK p st t.dead (.datum m :: r) rest)
    (hf : ∀ d, TyOK p m d → ∃ d', f d = some d' ∧ d'.val.ty = d.val.ty)
    (hkont : ∀ t' st' d', StoreOK p st' t'.dead → t'.pc = t.pc → sOK p st' t'.dead r t'.stack → TyOK p m d' →
      ResOK p succs (kont t' st' d')) :
    ResOK p succs (writeDatum t st rest f kont) := by
  obtain ⟨lv, rest', d, rfl, hd, hT, hr'⟩ := sOK_datum hs hr
  obtain ⟨d', hfd, hty⟩ := hf d hT
  obtain ⟨h1, h2⟩ := updD_sound hs hd hty
  simp only [writeDatum, hd, hfd]
  exact hkont _ _ d' h1 rfl (sOK_ext h2 hr') (hT.of_ty_eq hty)

section
variable {o : Oracle} {d : Datum} {ts : Option Int}
theorem incIntD_some {v : Int} (h : d.val.ty = 0) : ∃ d', incIntD d v ts = some d' ∧ d'.val.ty = d.val.ty := by
  obtain ⟨val, tm⟩ := d; cases val <;> simp [DVal.ty] at h; exact ⟨_, rfl, rfl⟩
theorem setIntD_some {v : Int} (h : d.val.ty = 0 ∨ d.val.ty = 3) :
    ∃ d', setIntD o d v ts = some d' ∧ d'.val.ty = d.val.ty := by
  obtain ⟨val, tm⟩ := d; cases val <;> simp [DVal.ty] at h <;> exact ⟨_, rfl, rfl⟩
theorem setFloatD_some {v : UInt64} (h : d.val.ty = 1 ∨ d.val.ty = 3) :
    ∃ d', setFloatD o d v ts = some d' ∧ d'.val.ty = d.val.ty := by
  obtain ⟨val, tm⟩ := d; cases val <;> simp [DVal.ty] at h <;> exact ⟨_, rfl, rfl⟩
theorem setStringD_some {v : Bytes} (h : d.val.ty = 2) : ∃ d', setStringD d v ts = some d' ∧ d'.val.ty = d.val.ty := by
  obtain ⟨val, tm⟩ := d; cases val <;> simp [DVal.ty] at h; exact ⟨_, rfl, rfl⟩
end

section
variable {n : Int} (hn : n = -1 ∨ n = 0 ∨ n = 1)
include hn

theorem cmpInt_some (a b : Int) : ∃ r, cmpInt a b n = some r := by
  rcases hn with rfl | rfl | rfl <;> exact ⟨_, rfl⟩
theorem cmpStr_some (a b : Bytes) : ∃ r, cmpStr a b n = some r := by
  rcases hn with rfl | rfl | rfl <;> exact ⟨_, rfl⟩
theorem cmpFloat_some (o : Oracle) (a b : UInt64) : ∃ r, cmpFloat o a b n = some r :=
  ⟨_, if_pos hn⟩
end

/-- the operands `compare` takes for a number, and for a string -/
def numV : Val → Bool
  | .f64 _ => true | .i64 _ => true | .int _ => true | .bool _ => true | _ => false
def strV : Val → Bool
  | .str _ => true | _ => false

/-- a result of `compare` that is not a fault -/
def Fine (r : CmpRes) : Prop := (∃ b, r = .ok b) ∨ r = .conv

theorem fine_ofOpt {x : Option Bool} (h : ∃ r, x = some r) : Fine (ofOpt x) := by
  obtain ⟨r, rfl⟩ := h; exact .inl ⟨r, rfl⟩

theorem compareF_fine (o : Oracle) (x : UInt64) {b : Val} {n : Int} (hn : n = -1 ∨ n = 0 ∨ n = 1)
    (hb : numV b = true ∨ strV b = true) : Fine (compareF o x (unbool b) n) := by
  cases b
  case nil | dur | datum | metric => rcases hb with hb | hb <;> cases hb
  case str =>
    simp only [unbool, compareF]
    split
    · exact fine_ofOpt (cmpFloat_some hn ..)
    · exact .inr rfl
  all_goals exact fine_ofOpt (cmpFloat_some hn ..)

theorem compareI_fine (o : Oracle) (x : Int) {b : Val} {n : Int} (hn : n = -1 ∨ n = 0 ∨ n = 1)
    (hb : numV b = true ∨ strV b = true) : Fine (compareVals o (.i64 x) b n) := by
  cases b
  case nil | dur | datum | metric => rcases hb with hb | hb <;> cases hb
  case f64 => exact fine_ofOpt (cmpFloat_some hn ..)
  case str =>
    simp only [compareVals, unbool]
    split
    · exact fine_ofOpt (cmpFloat_some hn ..)
    · exact .inr rfl
  all_goals exact fine_ofOpt (cmpInt_some hn ..)

/-- `compare` on numeric and string operands never reports an unexpected type -/
theorem compareVals_fine (o : Oracle) (va vb : Val) (n : Int) (hn : n = -1 ∨ n = 0 ∨ n = 1)
    (h : (numV va = true ∧ (numV vb = true ∨ strV vb = true)) ∨ (strV va = true ∧ strV vb = true)) :
    Fine (compareVals o va vb n) := by
  have hb : numV vb = true ∨ strV vb = true := h.elim (·.2) (.inr ·.2)
  cases va
  case f64 x => exact compareF_fine o x hn hb
  case i64 x => exact compareI_fine o x hn hb
  case int x => exact compareI_fine o x hn hb
  case bool b => exact compareI_fine o (if b then 1 else 0) hn hb
  case str s =>
    simp only [compareVals, unbool]
    split
    · exact compareF_fine o _ hn hb
    · obtain ⟨h, -⟩ | ⟨-, h⟩ := h
      · cases h
      · cases vb <;> first | exact fine_ofOpt (cmpStr_some hn ..) | cases h
  all_goals obtain ⟨h, -⟩ | ⟨h, -⟩ := h <;> cases h

theorem numV_of {a : AV} {v : Val} (h : vOK p st dead a v) (ha : isNum a = true) : numV v = true := by
  cases a <;> cases ha <;> cases v <;> first | rfl | exact h.elim

theorem strV_of {v : Val} (h : vOK p st dead .str v) : strV v = true := by
  cases v <;> first | rfl | exact h.elim

theorem cmpArgOK_int {i : Instr} (h : cmpArgOK i = true) : ∃ n, argInt i = some n ∧ (n = -1 ∨ n = 0 ∨ n = 1) := by
  unfold cmpArgOK at h
  split at h
  · next n hn =>
    simp only [Bool.or_eq_true, beq_iff_eq] at h
    exact ⟨n, hn, by omega⟩
  · cases h

theorem cmp_arg {α : Type} {c : α → α → Int → Option Bool} {i : Instr}
    (hc : ∀ {n}, n = -1 ∨ n = 0 ∨ n = 1 → ∀ a b, ∃ r, c a b n = some r) (h : cmpArgOK i = true) (a b : α) :
    ∃ r, (argInt i).bind (c a b) = some r := by
  obtain ⟨n, hn, hn3⟩ := cmpArgOK_int h
  rw [hn]; exact hc hn3 a b

/-! The tests `astep` makes on the abstract stack and the operand, inverted: a clause that passes
    (`… = some y`) was given the shape it asks for.  Each `match` is written as `astep` writes it
    (the same patterns in the same order compile to the same case tree, so `of_… ha` unifies with
    the unfolded clause), with what the clause goes on to do as a variable `k`. -/
section
variable {β : Type} {y : β} {s : AStack} {i : Instr}

theorem of_cons {k : AStack → Option β} (h : (match s with | _ :: r => k r | [] => none) = some y) :
    ∃ a r, s = a :: r ∧ k r = some y := by
  split at h
  · exact ⟨_, _, rfl, h⟩
  · cases h

theorem of_cons₂ {k : AV → AV → AStack → Option β}
    (h : (match s with | b :: a :: r => k b a r | _ => none) = some y) : ∃ b a r, s = b :: a :: r ∧ k b a r = some y := by
  split at h
  · exact ⟨_, _, _, rfl, h⟩
  · cases h

theorem of_bool {k : AStack → Option β} (h : (match s with | .bool :: r => k r | _ => none) = some y) :
    ∃ r, s = .bool :: r ∧ k r = some y := by
  split at h
  · exact ⟨_, rfl, h⟩
  · cases h

theorem of_dur {k : AStack → Option β} (h : (match s with | .dur :: r => k r | _ => none) = some y) :
    ∃ r, s = .dur :: r ∧ k r = some y := by
  split at h
  · exact ⟨_, rfl, h⟩
  · cases h

theorem of_intc {k : Int → AStack → Option β} (h : (match s with | .intc n :: r => k n r | _ => none) = some y) :
    ∃ n r, s = .intc n :: r ∧ k n r = some y := by
  split at h
  · exact ⟨_, _, rfl, h⟩
  · cases h

/-- a datum pointer of a metric that satisfies `C` (a condition on its payload type) -/
theorem of_datum {C : Nat → Prop} [DecidablePred C] {k : Nat → AStack → Option β}
    (h : (match s with | .datum m :: r => if C m then k m r else none | _ => none) = some y) :
    ∃ m r, s = .datum m :: r ∧ C m ∧ k m r = some y := by
  split at h
  · exact ⟨_, _, rfl, Option.ite_none_right_eq_some.mp h⟩
  · cases h

theorem of_argInt {k : Int → Option β} (h : (match argInt i with | some n => k n | none => none) = some y) :
    ∃ n, argInt i = some n ∧ k n = some y := by
  split at h
  · exact ⟨_, ‹_›, h⟩
  · cases h

/-- `capref`: both representations of a Go `int` -/
theorem of_int_argInt {k : AStack → Int → Option β}
    (h : (match s, argInt i with
          | .int :: r, some g => k r g
          | .intc _ :: r, some g => k r g
          | _, _ => none) = some y) :
    ∃ a r g, s = a :: r ∧ (a = .int ∨ ∃ n, a = .intc n) ∧ argInt i = some g ∧ k r g = some y := by
  split at h
  · exact ⟨_, _, _, rfl, .inl rfl, ‹_›, h⟩
  · exact ⟨_, _, _, rfl, .inr ⟨_, rfl⟩, ‹_›, h⟩
  · cases h

theorem of_metric_argInt {k : Nat → AStack → Int → Option β}
    (h : (match s, argInt i with | .metric m :: r, some n => k m r n | _, _ => none) = some y) :
    ∃ m r n, s = .metric m :: r ∧ argInt i = some n ∧ k m r n = some y := by
  split at h
  · exact ⟨_, _, _, rfl, ‹_›, h⟩
  · cases h

end

theorem target_spec {pc : Nat} {i : Instr} {tg : Nat} (h : target p pc i = some tg) :
    ∃ n : Int, argInt i = some n ∧ 0 ≤ n ∧ n.toNat = tg ∧ pc < tg ∧ tg ≤ p.code.length := by
  obtain ⟨n, hn, h⟩ := of_argInt h
  obtain ⟨hc, e⟩ := Option.ite_none_right_eq_some.mp h
  cases e
  exact ⟨n, hn, hc.1, rfl, hc.2.1, hc.2.2⟩

theorem jumpTo_sound {t : Thread} {pc tg : Nat} {i : Instr} {s : AStack} {rest : List Val}
    (hs : StoreOK p st t.dead) (ht : target p pc i = some tg)
    (hmem : (tg, s) ∈ succs) (hr : sOK p st t.dead s rest) :
    ResOK p succs (jumpTo t st rest i) := by
  obtain ⟨n, hn, h0, htg, _, _⟩ := target_spec ht
  simp only [jumpTo, hn]
  have : ¬ n < 0 := by omega
  simp only [this, if_false]
  exact ⟨hs, (tg, s), hmem, htg, hr⟩

theorem resOK_ite {c : Prop} [Decidable c] {A B : Res}
    (h1 : c → ResOK p succs A) (h2 : ¬ c → ResOK p succs B) : ResOK p succs (if c then A else B) :=
  if h : c then if_pos h ▸ h1 h else if_neg h ▸ h2 h

theorem zeroDatum_ty (mi : MetricInfo) (h : mi.typ ≤ 3) : (zeroDatum mi).val.ty = mi.typ := by
  obtain ⟨typ, nkeys, ranges⟩ := mi
  match typ, h with
  | 0, _ | 1, _ | 2, _ | 3, _ => rfl

theorem metricsOK_le (h : metricsOK p = true) {m : Nat} {mi : MetricInfo}
    (hm : p.metrics[m]? = some mi) : mi.typ ≤ 3 := by
  unfold metricsOK at h
  rw [List.all_eq_true] at h
  have := h mi (List.mem_of_getElem? hm)
  simpa using this

theorem binInt_no_arity {op : Opcode} {a b : Int} {o : Oracle} : binInt op a b o ≠ .error .arity := by
  fun_cases binInt op a b o <;> nofun

/-- `Inc`/`Dec` after the delta has been popped: the clause wants a pointer to an integer datum -/
theorem incBy_sound {t : Thread} {d : Int} {s : AStack} {rest : List Val} {q : Nat}
    (ha : (match s with
           | .datum m :: r => if mtyp p m = some 0 then some [(q, AV.i64 :: r)] else none
           | _ => none) = some succs)
    (hs : StoreOK p st t.dead) (hr : sOK p st t.dead s rest) (hpc : t.pc = q) :
    ResOK p succs (incBy t st d rest) := by
  obtain ⟨m, r, rfl, hk, ha⟩ := of_datum ha
  refine writeDatum_sound hs hr (fun d hd => incIntD_some (hd.ty_eq hk)) fun t' st' d' h1 h2 h3 hd' => ?_
  obtain ⟨val, tm⟩ := d'
  cases val <;> try cases hd'.ty_eq hk
  exact resOK_next h1 ha (h2.trans hpc) ⟨trivial, h3⟩

theorem stepCore_sound (o : Oracle) (p : Prog) (inp : Input) (op : Opcode) (arg : Operand) (t : Thread)
    (st : MStore) (pc : Nat) (s : AStack) (succs : List (Nat × AStack)) (hmo : metricsOK p = true)
    (hs : StoreOK p st t.dead) (hst : sOK p st t.dead s t.stack) (hpc : t.pc = pc + 1)
    (ha : astep p pc ⟨op, arg⟩ s = some succs) (hop : op ≠ .strptime) :
    ResOK p succs (stepCore o p inp ⟨op, arg⟩ t st) := by
  have I := popInt_sound o hs
  have F := popFloat_sound o hs
  have S := popString_sound o hs
  -- `dsimp`, not `simp`: a rewrite with the unfolding equation would leave, for every opcode, a
  -- proof over all 61 clauses to be checked
  cases op <;> dsimp only [astep] at ha <;> dsimp only [stepCore]
  case bad => cases ha
  case strptime => exact absurd rfl hop
  case stop => cases ha; exact hs.forget
  case otherwise | getfilename => exact resOK_next hs ha hpc ⟨trivial, hst⟩
  case timestamp => split <;> exact resOK_next hs ha hpc ⟨trivial, hst⟩
  case push => cases arg <;> exact resOK_next hs ha hpc ⟨by first | trivial | rfl, hst⟩
  case setmatched => cases arg <;> first | exact resOK_next hs ha hpc hst | cases ha
  case neg | i2f | i2s =>
    exact I.andThen hs hst ha fun _ _ _ hr ha => resOK_next hs ha hpc ⟨trivial, hr⟩
  case f2s =>
    exact F.andThen hs hst ha fun _ _ _ hr ha => resOK_next hs ha hpc ⟨trivial, hr⟩
  case tolower | length =>
    exact S.andThen hs hst ha fun _ _ _ hr ha => resOK_next hs ha hpc ⟨trivial, hr⟩
  case settime =>
    exact I.andThen hs hst ha fun _ _ _ hr ha => resOK_next hs ha hpc hr
  case cat =>
    exact S.andThen₂ hs hst ha fun _ _ _ _ hr ha => resOK_next hs ha hpc ⟨trivial, hr⟩
  case subst =>
    rw [Option.bind_assoc] at ha
    exact S.andThen₂ hs hst ha fun _ _ _ _ hr ha => S.andThen hs hr ha fun _ _ _ hr ha =>
      resOK_next hs ha hpc ⟨trivial, hr⟩
  case fadd | fsub | fmul | fdiv | fmod | fpow =>
    exact F.andThen₂ hs hst ha fun _ _ _ _ hr ha => resOK_next hs ha hpc ⟨trivial, hr⟩
  case iadd | isub | imul | idiv | imod | ipow | shl | shr | and | or | xor =>
    refine I.andThen₂ hs hst ha fun b a _ _ hr ha => ?_
    split
    · exact resOK_next hs ha hpc ⟨trivial, hr⟩
    · next e he => exact resOK_err hs fun h => binInt_no_arity (h ▸ he)
  case not =>
    obtain ⟨r, rfl, ha⟩ := of_bool ha
    obtain ⟨b, rest, hstk, hr⟩ := sOK_bool hst
    rw [hstk]
    exact resOK_next hs ha hpc ⟨trivial, hr⟩
  case s2f =>
    refine S.andThen hs hst ha fun _ _ _ hr ha => ?_
    split
    · exact resOK_next hs ha hpc ⟨trivial, hr⟩
    · exact resOK_err hs
  case iset =>
    refine I.andThen hs hst ha fun v rest s1 hr ha => ?_
    obtain ⟨m, r, rfl, hC, ha⟩ := of_datum ha
    exact writeDatum_sound hs hr (fun d hd => setIntD_some (hC.imp hd.ty_eq hd.ty_eq))
      fun t' st' _ h1 h2 h3 _ => resOK_next h1 ha (h2.trans hpc) h3
  case fset =>
    refine F.andThen hs hst ha fun v rest s1 hr ha => ?_
    obtain ⟨m, r, rfl, hC, ha⟩ := of_datum ha
    exact writeDatum_sound hs hr (fun d hd => setFloatD_some (hC.imp hd.ty_eq hd.ty_eq))
      fun t' st' _ h1 h2 h3 _ => resOK_next h1 ha (h2.trans hpc) h3
  case sset =>
    refine S.andThen hs hst ha fun v rest s1 hr ha => ?_
    obtain ⟨m, r, rfl, hC, ha⟩ := of_datum ha
    -- a histogram observes the numeric value of the string
    rcases hC with hk | hk <;> rw [isBucketsPtr_eq hs hr hk]
    · rw [if_neg (by decide)]
      exact writeDatum_sound hs hr (fun d hd => setStringD_some (hd.ty_eq hk))
        fun t' st' _ h1 h2 h3 _ => resOK_next h1 ha (h2.trans hpc) h3
    · rw [if_pos (by decide)]
      split
      · exact writeDatum_sound hs hr (fun d hd => setFloatD_some (.inr (hd.ty_eq hk)))
          fun t' st' _ h1 h2 h3 _ => resOK_next h1 ha (h2.trans hpc) h3
      · exact resOK_err hs
  case inc | dec =>
    cases arg
    case none => exact incBy_sound ha hs hst hpc
    all_goals exact I.andThen hs hst ha fun _ _ _ hr ha => incBy_sound ha hs hr hpc
  case iget | fget | sget =>
    obtain ⟨m, r, rfl, hk, ha⟩ := of_datum ha
    obtain ⟨lv, rest, ⟨val, tm⟩, hstk, hd, hT, hr⟩ := sOK_datum hs hst
    simp only [hstk, hd]
    cases val <;> try cases hT.ty_eq hk
    exact resOK_next hs ha hpc ⟨trivial, hr⟩
  case' icmp | fcmp | scmp => obtain ⟨hc, ha⟩ := Option.ite_none_right_eq_some.mp ha
  case icmp =>
    refine I.andThen₂ hs hst ha fun b a _ _ hr ha => ?_
    obtain ⟨r, e⟩ := cmp_arg cmpInt_some hc a b
    rw [e]; exact resOK_next hs ha hpc ⟨trivial, hr⟩
  case fcmp =>
    refine F.andThen₂ hs hst ha fun b a _ _ hr ha => ?_
    obtain ⟨r, e⟩ := cmp_arg (fun h => cmpFloat_some h o) hc a b
    rw [e]; exact resOK_next hs ha hpc ⟨trivial, hr⟩
  case scmp =>
    refine S.andThen₂ hs hst ha fun b a _ _ hr ha => ?_
    obtain ⟨r, e⟩ := cmp_arg cmpStr_some hc a b
    rw [e]; exact resOK_next hs ha hpc ⟨trivial, hr⟩
  case cmp =>
    obtain ⟨b, a, r, rfl, ha⟩ := of_cons₂ ha
    obtain ⟨⟨hc, hty⟩, ha⟩ := Option.ite_none_right_eq_some.mp ha
    obtain ⟨vb, _, hstk, hvb, hst⟩ := sOK_cons hst
    obtain ⟨va, rest, rfl, hva, hr⟩ := sOK_cons hst
    obtain ⟨n, hn, hn3⟩ := cmpArgOK_int hc
    simp only [hstk, hn]
    have hres := compareVals_fine o va vb n hn3 (hty.imp
      (fun h => ⟨numV_of hva h.1, h.2.imp (numV_of hvb) fun e => strV_of (e ▸ hvb)⟩)
      fun h => ⟨strV_of (h.1 ▸ hva), strV_of (h.2 ▸ hvb)⟩)
    rcases hres with ⟨r, e⟩ | e <;> rw [e]
    · exact resOK_next hs ha hpc ⟨trivial, hr⟩
    · exact resOK_err hs
  case jnm | jm =>
    obtain ⟨a, r, rfl, ha⟩ := of_cons ha
    obtain ⟨tg, htg, ha⟩ := Option.map_eq_some_iff.mp ha
    obtain ⟨v, rest, hstk, -, hr⟩ := sOK_cons hst
    subst ha
    rw [hstk]
    exact resOK_ite (fun _ => jumpTo_sound hs htg (by simp) hr) fun _ => ⟨hs, _, List.mem_cons_self, hpc, hr⟩
  case jmp =>
    obtain ⟨tg, htg, rfl⟩ := Option.map_eq_some_iff.mp ha
    exact jumpTo_sound hs htg (by simp) hst
  -- `match`, `smatch`, `mload` and `str` index a table of the program with their operand
  case' «match» | smatch | mload | str =>
    obtain ⟨n, hn, ha⟩ := of_argInt ha
    obtain ⟨hc, ha⟩ := Option.ite_none_right_eq_some.mp ha
    rw [hn]; dsimp only
  case «match» =>
    rw [if_neg (by omega)]
    exact resOK_next hs ha hpc ⟨trivial, hst⟩
  case smatch =>
    refine S.andThen hs hst ha fun _ _ _ hr ha => ?_
    rw [if_neg (by omega)]
    exact resOK_next hs ha hpc ⟨trivial, hr⟩
  case mload =>
    rw [if_neg (by omega)]
    exact resOK_next hs ha hpc ⟨⟨rfl, hc.2⟩, hst⟩
  case str =>
    rw [if_neg (by omega), List.getElem?_eq_getElem hc.2]
    exact resOK_next hs ha hpc ⟨trivial, hst⟩
  case capref =>
    obtain ⟨a, r, g, rfl, hint, hg, ha⟩ := of_int_argInt ha
    obtain ⟨h0, ha⟩ := Option.ite_none_right_eq_some.mp ha
    obtain ⟨v, rest, hstk, hv, hr⟩ := sOK_cons hst
    obtain ⟨re, rfl⟩ : ∃ re, v = .int re := by
      rcases hint with rfl | ⟨n, rfl⟩ <;> cases v <;> first | exact hv.elim | exact ⟨_, rfl⟩
    simp only [hstk, hg]
    refine resOK_ite (fun _ => resOK_err hs) fun _ => resOK_ite (fun _ => resOK_err hs) fun hlen => ?_
    rw [if_neg (by omega), List.getElem?_eq_getElem (by omega)]
    exact resOK_next hs ha hpc ⟨trivial, hr⟩
  case s2i =>
    have fin : ∀ (b : Int) (s1 : AStack) (vs : List Val), sOK p st t.dead s1 vs →
        ((apopString p s1).bind fun r => some [(pc + 1, AV.i64 :: r)]) = some succs →
        ResOK p succs ((popString o st t.dead vs).andThen st fun x rest =>
          match o.parseInt x b with
          | some n => Res.next { t with stack := .i64 n :: rest } st
          | none => Res.err .convFailed st) := by
      intro b s1 vs hr ha
      refine S.andThen hs hr ha fun _ _ _ hr ha => ?_
      split
      · exact resOK_next hs ha hpc ⟨trivial, hr⟩
      · exact resOK_err hs
    cases arg
    case none => exact fin _ _ _ hst ha
    all_goals
      refine I.andThen hs hst (Option.bind_assoc .. ▸ ha) fun _ _ _ hr ha => ?_
      split
      · exact resOK_err hs
      · exact fin _ _ _ hr ha
  case rsubst =>
    obtain ⟨n, r, rfl, ha⟩ := of_intc ha
    obtain ⟨hc, ha⟩ := Option.ite_none_right_eq_some.mp ha
    obtain ⟨rest, hstk, hr⟩ := sOK_intc hst
    simp only [hstk, popInt, P.andThen]
    refine S.andThen₂ hs hr ha fun _ _ _ _ hr ha => ?_
    rw [if_neg (by omega)]
    exact resOK_next hs ha hpc ⟨trivial, hr⟩
  -- `dload`, `del` and `expire` take a metric and its keys
  case' dload | del | expire =>
    obtain ⟨m, r, n, rfl, hn, ha⟩ := of_metric_argInt ha
    obtain ⟨⟨h0, hkeys⟩, ha⟩ := Option.ite_none_right_eq_some.mp ha
    obtain ⟨rest, mi, mm, hstk, hmi, hmm, hnk, hr⟩ := sOK_metric hs hst hkeys
    simp only [hstk, hn]
    rw [if_neg (by omega)]
    refine keys_andThen o hs _ hr ha fun ks rest' s' hlen hr' ha => ?_
  case dload =>
    simp only [hmm, hmi]
    obtain ⟨⟨mm', id⟩, hg⟩ := Metric.getDatum_of_arity (z := zeroDatum mi) (hlen.trans hnk.symm)
    obtain ⟨hs', he, hid⟩ := getDatum_sound hs hmm ⟨mi, hmi, zeroDatum_ty mi (metricsOK_le hmo hmi)⟩ hg
    rw [hg]
    exact resOK_next hs' ha hpc ⟨⟨rfl, hid⟩, sOK_ext he hr'⟩
  case del =>
    simp only [hmm]
    obtain ⟨mm', hg⟩ := Metric.removeDatum_of_arity (hlen.trans hnk.symm)
    obtain ⟨hs', he⟩ := removeDatum_sound hs hmm hg
    rw [hg]
    exact resOK_next hs' ha hpc (sOK_ext he hr')
  case expire =>
    obtain ⟨r'', rfl, ha⟩ := of_dur ha
    obtain ⟨dv, rest'', rfl, hr''⟩ := sOK_dur hr'
    simp only [hmm]
    split
    · next mm' hg =>
      obtain ⟨hs', he⟩ := expireDatum_sound hs hmm hg
      exact resOK_next hs' ha hpc (sOK_ext he hr'')
    · next hg => exact absurd hg (Metric.expireDatum_of_arity (hlen.trans hnk.symm))
    · exact resOK_err hs

theorem stepStrptime_sound (o : Oracle) (p : Prog) (arg : Operand) (t : Thread) (st : MStore) (memo : Memo)
    (pc : Nat) (s : AStack) (succs : List (Nat × AStack))
    (hs : StoreOK p st t.dead) (hst : sOK p st t.dead s t.stack) (hpc : t.pc = pc + 1)
    (ha : astep p pc ⟨.strptime, arg⟩ s = some succs) :
    ResOK p succs (stepStrptime o t st memo).1 := by
  dsimp only [astep] at ha
  obtain ⟨s1, h1, ha⟩ := Option.bind_eq_some_iff.mp ha
  obtain ⟨s2, h2, ha⟩ := Option.bind_eq_some_iff.mp ha
  obtain ⟨layout, rest, e1, hr⟩ := popString_total o hs hst h1
  obtain ⟨ts, rest', e2, hr'⟩ := popString_total o hs hr h2
  simp only [stepStrptime, e1, e2]
  split
  · exact resOK_next hs ha hpc hr'
  · split
    · exact resOK_next hs ha hpc hr'
    · exact resOK_err hs

/-- one verified instruction never faults, raises only checked errors, and lands in a state the
    certificate's successor describes -/
theorem step_sound (o : Oracle) (p : Prog) (inp : Input) (i : Instr) (t : Thread) (st : MStore) (memo : Memo)
    (s : AStack) (succs : List (Nat × AStack)) (hmo : metricsOK p = true)
    (hs : StoreOK p st t.dead) (hst : sOK p st t.dead s t.stack)
    (ha : astep p t.pc i s = some succs) :
    ResOK p succs (step o p inp i t st memo).1 := by
  obtain ⟨op, arg⟩ := i
  unfold step
  split
  · next h => cases h; exact stepStrptime_sound o p arg _ st memo t.pc s succs hs hst rfl ha
  · next h => exact stepCore_sound o p inp op arg _ st t.pc s succs hmo hs hst rfl ha h

end MtailVerif.VM.Verify
