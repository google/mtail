import MtailVerif.Model.Scope
import MtailVerif.Proofs.Assoc
/-! What every visit of the scope model's `walk` does to the checker's state.  The induction over
    the tree is done once, for any relation between the state before and the state after that the
    steps of the walk are closed under (`walk_rel`).  The relation all later arguments start from is
    `Visit`: errors only accumulate, and unless an error is reported or the depth limit is hit the
    decorator stack and the scope stack are left as they were found. -/
namespace MtailVerif.Scope
open MtailVerif MtailVerif.Ast

/-- What a relation between the state before and the state after has to satisfy in order to hold
    across every visit: a preorder, kept by each step `walk` is built from.  `D` is what is known of
    the names the tree declares, `M` of the names it uses as identifier or decorator; capture groups
    are outside both (`declares` and `mentions` ignore them), hence the guard `k ≠ .capref → …` in
    `used`. -/
structure Closed (cfg : Cfg) (D M : String → Prop) (R : St → St → Prop) : Prop where
  refl : ∀ s, R s s
  trans : ∀ {a b c}, R a b → R b c → R a c
  guarded : ∀ n {k : St → St}, (∀ s, R s (k s)) → ∀ s, R s (Scope.guarded cfg n k s)
  leave : ∀ {k : St → St}, (∀ s, R s (k s)) → ∀ s, R s (Scope.leave s k)
  err : ∀ c p s, R s (s.err c p)
  cut : ∀ s, R s (Scope.cut s)
  /-- `.stmts`, `.cond`: the children in a scope of their own, which is swept and dropped -/
  block : ∀ {w : St → St}, (∀ s, R s (w s)) → ∀ s, R s (Scope.leave (w (push s)) fun s => pop (sweep s))
  declare : ∀ {name} k p c dp {ok : Sym → St → St}, D name → (∀ sy s, R s (ok sy s)) →
    ∀ s, R s (Scope.declare name k p c dp ok s)
  /-- `.id`, `.cap`, `.deco`: the symbol a lookup finds is marked used -/
  used : ∀ {name k sy} s, lookup s name k = some sy → (k ≠ .capref → M name) → R s (markUsed s sy.id)
  /-- `.deco`: the decorated block in a scope that holds what the decorator's definition saw at `next` -/
  decorated : ∀ {wb : St → St}, (∀ s, R s (wb s)) → ∀ s fr, R s (Scope.leave (wb (push s (flatten s [fr] []))) pop)
  substK : ∀ name b s, R s (Scope.substK name b s)
  evalCheck : ∀ e p s, R s (Scope.evalCheck cfg e p s)
  recordPattern : ∀ sy e s, R s (Scope.recordPattern cfg sy e s)
  doNext : ∀ p s, R s (Scope.doNext p s)
  /-- `.decodecl`: the body, between `openDecoScope` and `closeDeco` -/
  decoBody : ∀ {w : St → St} sy wp, (∀ s, R s (w s)) → ∀ s, R s (Scope.leave (w (openDecoScope s)) (closeDeco sy wp))

mutual
/-- does the tree hold a declaration of `name`: a metric, a constant or a decorator definition? -/
def declares (name : String) : Node → Bool
  | .stmts cs => declaresList name cs
  | .exprs cs => declaresList name cs
  | .cond c t e => declares name c || declares name t || declares name e
  | .builtin _ args _ _ => declares name args
  | .bin _ l r _ => declares name l || declares name r
  | .un _ e _ _ => declares name e
  | .idx lhs index _ => declares name lhs || declares name index
  | .decl d _ => d.name == name
  | .patexpr e _ => declares name e
  | .const (.id n _ _) e _ => n == name || declares name e
  | .const _ _ _ => false
  | .decodecl n block _ => n == name || declares name block
  | .deco _ block _ => declares name block
  | .del n _ _ => declares name n
  | .conv n _ => declares name n
  | _ => false
def declaresList (name : String) : Nodes → Bool
  | .nil => false
  | .cons n ns => declares name n || declaresList name ns
end

mutual
/-- does the tree use `name` as an identifier or as a decorator? -/
def mentions (name : String) : Node → Bool
  | .id n _ _ => n == name
  | .deco n block _ => n == name || mentions name block
  | .stmts cs => mentionsList name cs
  | .exprs cs => mentionsList name cs
  | .cond c t e => mentions name c || mentions name t || mentions name e
  | .builtin _ args _ _ => mentions name args
  | .bin _ l r _ => mentions name l || mentions name r
  | .un _ e _ _ => mentions name e
  | .idx lhs index _ => mentions name index || mentions name lhs
  | .patexpr e _ => mentions name e
  | .const (.id _ _ _) e _ => mentions name e
  | .decodecl _ block _ => mentions name block
  | .del n _ _ => mentions name n
  | .conv n _ => mentions name n
  | _ => false
def mentionsList (name : String) : Nodes → Bool
  | .nil => false
  | .cons n ns => mentions name n || mentionsList name ns
end

variable {cfg : Cfg} {D M : String → Prop} {R : St → St → Prop}

theorem idK_undeclared {name : String} (p : Pos) {s : St} (h1 : lookup s name .var = none) (h2 : lookup s name .pattern = none) :
    idK name p s = cut (s.err .undeclared (some p)) := by
  unfold idK; rw [h1, h2]

theorem capK_undefined {name : String} (p : Pos) {s : St} (h : lookup s name .capref = none) :
    capK name p s = cut (s.err .undefCapref (some p)) := by
  unfold capK; rw [h]

theorem decoK_undefined {name : String} (w : Option Pos) (wb : St → St) {s : St} (h : lookup s name .deco = none) :
    decoK name w wb s = cut (s.err .undefDeco w) := by
  unfold decoK; rw [h]

namespace Closed
/-- `VisitBefore` reports an error and returns no visitor -/
theorem errCut (C : Closed cfg D M R) {c : Cls} {p : Option Pos} (s : St) : R s (Scope.cut (s.err c p)) :=
  C.trans (C.err c p s) (C.cut _)

theorem idK (C : Closed cfg D M R) {name : String} (p : Pos) (hm : M name) (s : St) : R s (idK name p s) := by
  -- the name is a metric; a pattern constant; neither
  fun_cases Scope.idK name p s with
  | case1 sy h | case2 _ sy h => exact C.trans (C.used s h fun _ => hm) (C.leave C.refl _)
  | case3 => exact C.errCut s

theorem capK (C : Closed cfg D M R) (name : String) (p : Pos) (s : St) : R s (capK name p s) := by
  unfold Scope.capK
  cases h : lookup s name .capref with
  | some sy => exact C.trans (C.used s h fun h => absurd rfl h) (C.leave C.refl _)
  | none => exact C.errCut s

theorem decoK (C : Closed cfg D M R) {name : String} (w : Option Pos) {wb : St → St} (hm : M name)
    (hwb : ∀ s, R s (wb s)) (s : St) : R s (decoK name w wb s) := by
  -- no such decorator; one for which no scope was captured; one with the captured scope `z`
  fun_cases Scope.decoK name w wb s with
  | case1 => exact C.errCut s
  | case2 sy h => exact C.trans (C.used s h fun _ => hm) (C.errCut _)
  | case3 sy h z => exact C.trans (C.used s h fun _ => hm) (C.decorated hwb _ _)

/-- what a metric declaration goes on with once its name is entered -/
theorem declOk (C : Closed cfg D M R) (d : Decl) (p : Pos) (s : St) :
    R s (if !d.buckets.isEmpty ∧ d.kind ≠ 5 then Scope.cut (s.err .bucketsOnNonHistogram (some p)) else Scope.leave s id) := by
  split
  · exact C.errCut s
  · exact C.leave C.refl s

theorem matchK (C : Closed cfg D M R) (op : Op) (r : Node) (s : St) : R s (matchK cfg op r s) := by
  unfold Scope.matchK
  split
  · exact C.guarded r (C.evalCheck r _) s
  · exact C.refl s

theorem idxK (C : Closed cfg D M R) (lhs : Node) (s : St) : R s (idxK cfg lhs s) := by
  unfold Scope.idxK
  split
  · exact C.evalCheck lhs _ s
  · exact C.refl s

end Closed

/-! The predicates on trees (`declares`, `mentions`, `hasNextOutside` …) are disjunctions over the
    children by definition, so these four apply to a hypothesis about a node as it stands. -/
theorem or_l {a b : Bool} (h : a = true) : (a || b) = true := by rw [h]; rfl
theorem or_r {a b : Bool} (h : b = true) : (a || b) = true := by rw [h, Bool.or_true]
theorem of_or {a b : Bool} (h : (a || b) = true) : a = true ∨ b = true := Bool.or_eq_true_iff.mp h
theorem of_nor {a b : Bool} (h : (a || b) = false) : a = false ∧ b = false := Bool.or_eq_false_iff.mp h

/-- what is known of the names of a node is known of the names of its children -/
theorem sub_l {f g : String → Bool} {P : String → Prop} (h : ∀ x, (f x || g x) = true → P x) :
    ∀ x, f x = true → P x := fun x hx => h x (or_l hx)
theorem sub_r {f g : String → Bool} {P : String → Prop} (h : ∀ x, (f x || g x) = true → P x) :
    ∀ x, g x = true → P x := fun x hx => h x (or_r hx)

section
variable (C : Closed cfg D M R)
include C

mutual
/-- **the induction over the tree, once**: a relation that is closed under the steps of the walk
    holds between the states before and after the visit of any tree -/
theorem walk_rel : ∀ n, (∀ x, declares x n = true → D x) → (∀ x, mentions x n = true → M x) → ∀ s, R s (walk cfg n s)
  | .nil, _, _, s | .error .., _, _, s => C.refl s
  | .stmts cs, hd, hm, s =>
    C.guarded _ (C.block (walkList_rel cs hd hm)) s
  | .exprs cs, hd, hm, s =>
    C.guarded _ (fun s => C.trans (walkList_rel cs hd hm s) (C.leave C.refl _)) s
  | .cond c t e, hd, hm, s =>
    C.guarded _ (C.block (w := fun s => walk cfg e (walk cfg t (walk cfg c s))) fun s =>
      C.trans (C.trans (walk_rel c (sub_l (sub_l hd)) (sub_l (sub_l hm)) s)
        (walk_rel t (sub_r (sub_l hd)) (sub_r (sub_l hm)) _))
        (walk_rel e (sub_r hd) (sub_r hm) _)) s
  | .id name p ty, _, hm, s =>
    C.guarded _ (C.idK p (hm name (beq_self_eq_true name))) s
  | .cap name nd p ty, _, _, s => C.guarded _ (C.capK name p) s
  | .builtin name args p ty, hd, hm, s =>
    C.guarded _ (fun s => C.trans (C.trans (C.substK name true s)
      (walk_rel args hd hm _)) (C.leave (C.substK name false) _)) s
  | .bin op l r ty, hd, hm, s =>
    C.guarded _ (fun s => C.trans (C.trans (walk_rel l (sub_l hd) (sub_l hm) s)
      (walk_rel r (sub_r hd) (sub_r hm) _)) (C.leave (C.matchK op r) _)) s
  | .idx lhs index ty, hd, hm, s =>
    C.guarded _ (fun s => C.trans (C.trans (walk_rel index (sub_r hd) (sub_l hm) s)
      (walk_rel lhs (sub_l hd) (sub_r hm) _)) (C.leave (C.idxK lhs) _)) s
  | .decl d p, hd, _, s =>
    C.guarded _ (C.declare .var _ _ _ (hd d.name (beq_self_eq_true d.name)) fun _ => C.declOk d p) s
  | .str .., _, _, s | .int .., _, _, s | .float .., _, _, s | .patlit .., _, _, s | .otherwise _, _, _, s
  | .stop _, _, _, s => C.guarded _ (C.leave C.refl) s
  | .patexpr e pt, hd, hm, s =>
    C.guarded _ (fun s => C.trans (walk_rel e hd hm s) (C.leave (C.evalCheck e _) _)) s
  | .const i e pt, hd, hm, s => by
    refine C.guarded _ (fun s => ?_) s
    cases i with
    | id name p ty =>
      exact C.declare .pattern _ _ _ (hd name (or_l (beq_self_eq_true name)))
        (fun sy s => C.trans (walk_rel e (sub_r hd) hm s) (C.leave (C.recordPattern sy e) _)) s
    | _ => exact C.cut s
  | .decodecl name block p, hd, hm, s =>
    C.guarded _ (C.declare .deco _ _ _ (hd name (or_l (beq_self_eq_true name)))
      fun sy => C.decoBody sy _ (walk_rel block (sub_r hd) hm)) s
  | .deco name block p, hd, hm, s =>
    C.guarded _ (C.decoK _ (hm name (or_l (beq_self_eq_true name))) (walk_rel block hd (sub_r hm))) s
  | .next p, _, _, s => C.guarded _ (C.leave (C.doNext p)) s
  | .un _ e _ _, hd, hm, s | .del e _ _, hd, hm, s | .conv e _, hd, hm, s =>
    C.guarded _ (fun s => C.trans (walk_rel e hd hm s) (C.leave C.refl _)) s
theorem walkList_rel : ∀ ns, (∀ x, declaresList x ns = true → D x) → (∀ x, mentionsList x ns = true → M x) →
    ∀ s, R s (walkList cfg ns s)
  | .nil, _, _, s => C.refl s
  | .cons n ns, hd, hm, s =>
    C.trans (walk_rel n (sub_l hd) (sub_l hm) s)
      (walkList_rel ns (sub_r hd) (sub_r hm) _)
end

end

def Ext (a b : St) : Prop := ∃ more, b.errors = a.errors ++ more

theorem Ext.refl (a : St) : Ext a a := ⟨[], by simp⟩
theorem Ext.trans {a b c : St} (h1 : Ext a b) (h2 : Ext b c) : Ext a c := by
  obtain ⟨m1, e1⟩ := h1; obtain ⟨m2, e2⟩ := h2
  exact ⟨m1 ++ m2, by rw [e2, e1, List.append_assoc]⟩

theorem ext_of_errors_eq {a b : St} (h : b.errors = a.errors) : Ext a b := ⟨[], by simp [h]⟩
theorem ext_ite_err (x : St) (b : Bool) (c : Cls) (p : Option Pos) : Ext x (if b = true then x.err c p else x) := by
  cases b
  · exact .refl x
  · exact ⟨_, rfl⟩
theorem ext_len {a b : St} (h : Ext a b) : a.errors.length ≤ b.errors.length := by
  obtain ⟨m, e⟩ := h; rw [e]; simp
theorem lt_err (s : St) {c : Cls} {p : Option Pos} : s.errors.length < (s.err c p).errors.length := by simp [St.err]

/-- the scope stack after a visit: the same scopes, the innermost one possibly with more entries -/
def Grows : List Frame → List Frame → Prop
  | [], [] => True
  | f :: r, g :: r' => r' = r ∧ ∃ extra, g = f ++ extra
  | _, _ => False

theorem Grows.refl : ∀ a, Grows a a
  | [] => trivial
  | f :: r => ⟨rfl, [], by simp⟩

theorem Grows.of_eq {a b : List Frame} (h : b = a) : Grows a b := h ▸ Grows.refl a

theorem Grows.cons {f : Frame} {a b : List Frame} (h : Grows (f :: a) b) : ∃ extra, b = (f ++ extra) :: a := by
  cases b with
  | nil => exact h.elim
  | cons g r => obtain ⟨rfl, extra, rfl⟩ := h; exact ⟨extra, rfl⟩

theorem Grows.trans {a b c : List Frame} (h1 : Grows a b) (h2 : Grows b c) : Grows a c := by
  cases a with
  | nil =>
    cases b with
    | nil => exact h2
    | cons => exact h1.elim
  | cons f r =>
    obtain ⟨x1, rfl⟩ := h1.cons
    obtain ⟨x2, rfl⟩ := h2.cons
    exact ⟨rfl, x1 ++ x2, List.append_assoc ..⟩

theorem Grows.tail {f : Frame} {a b : List Frame} (h : Grows (f :: a) b) : b.tail = a := by
  obtain ⟨_, rfl⟩ := h.cons; rfl

theorem Grows.ne_nil {a b : List Frame} (h : Grows a b) (ha : a ≠ []) : b ≠ [] := by
  cases a with
  | nil => exact absurd rfl ha
  | cons f r => obtain ⟨_, rfl⟩ := h.cons; simp

/-- A quiet step: errors are appended at most, entries are added to the innermost scope at most,
    the decorator stack keeps its height and the depth-limit flag its value.  Every step of the
    walk that is not one half of a bracket (`push`/`pop`, `openDecoScope`/`closeDeco`, the depth
    cut) is quiet. -/
structure Quiet (a b : St) : Prop where
  ext : Ext a b
  deep : b.tooDeep = a.tooDeep
  decos : b.decoScopes.length = a.decoScopes.length
  frames : Grows a.frames b.frames

theorem Quiet.same {a b : St} (he : b.errors = a.errors) (ht : b.tooDeep = a.tooDeep) (hd : b.decoScopes = a.decoScopes)
    (hf : b.frames = a.frames) : Quiet a b := ⟨ext_of_errors_eq he, ht, by rw [hd], .of_eq hf⟩

theorem Quiet.refl (a : St) : Quiet a a := .same rfl rfl rfl rfl
theorem Quiet.trans {a b c : St} (h1 : Quiet a b) (h2 : Quiet b c) : Quiet a c :=
  ⟨h1.ext.trans h2.ext, h2.deep.trans h1.deep, h2.decos.trans h1.decos, h1.frames.trans h2.frames⟩

theorem quiet_errors (s : St) {more : List Err} : Quiet s { s with errors := s.errors ++ more } := ⟨⟨_, rfl⟩, rfl, rfl, .refl _⟩

theorem quiet_err (s : St) {c : Cls} {p : Option Pos} : Quiet s (s.err c p) := quiet_errors s

theorem quiet_cut (s : St) : Quiet s (cut s) := .same rfl rfl rfl rfl

theorem quiet_markUsed (s : St) (i : Nat) : Quiet s (markUsed s i) := by
  unfold markUsed; split <;> exact .same rfl rfl rfl rfl

/-- what the sweep has to say about one entry of the scope it closes -/
def unusedErr (s : St) (e : String × Nat) : Option Err :=
  (s.sym e.2).bind fun sy =>
    if s.used.contains sy.id then none else if sy.kind = .capref then none else some ⟨.unused sy.kind, sy.pos⟩

theorem unusedErr_unused {s : St} (e : String × Nat) {sy : Sym} (hs : s.sym e.2 = some sy) (hu : sy.id ∉ s.used)
    (hk : sy.kind ≠ .capref) : unusedErr s e = some ⟨.unused sy.kind, sy.pos⟩ := by
  simp [unusedErr, hs, hu, hk]

/-- the sweep only reports: one error for every entry of the innermost scope whose symbol nobody
    used, capture groups excepted -/
theorem sweep_eq (s : St) : sweep s = { s with errors := s.errors ++ (s.frames.headD []).filterMap (unusedErr s) } := by
  have fold (f : Frame) : ∀ t : St, f.foldl (fun s e => match s.sym e.2 with
        | some sy => if s.used.contains sy.id then s else if sy.kind = .capref then s else s.err (.unused sy.kind) sy.pos
        | none => s) t = { t with errors := t.errors ++ f.filterMap (unusedErr t) } := by
    induction f with
    | nil => intro t; simp
    | cons e f ih =>
      intro t
      -- `unusedErr` reads the symbols and the use marks, which no step of the fold changes
      rw [List.foldl_cons, ih, List.filterMap_cons]
      simp only [unusedErr]
      cases t.sym e.2 with
      | none => rfl
      | some sy =>
        simp only [Option.bind_some]
        split
        · rfl
        · split
          · rfl
          · simp only [St.err, List.append_assoc, List.singleton_append]; rfl
  fun_cases sweep s with
  | case1 h => rw [show s.frames.headD [] = [] by rw [h]; rfl]; simp
  | case2 f _ h => rw [show s.frames.headD [] = f by rw [h]; rfl]; exact fold f s

theorem quiet_sweep (s : St) : Quiet s (sweep s) := by
  rw [sweep_eq]; exact quiet_errors s

theorem ext_popSweep (s : St) : Ext s (pop (sweep s)) := (quiet_sweep s).ext

/-- a scope is a keyed list: `frameGet` is core's first-match lookup -/
theorem frameGet_eq (f : Frame) (n : String) : frameGet f n = (f.find? (·.1 = n)).map (·.2) := by
  fun_induction frameGet f n <;> simp [*]

theorem frameGet_mem {f : Frame} {n : String} {i : Nat} (h : frameGet f n = some i) : (n, i) ∈ f :=
  mem_of_find?_fst (frameGet_eq f n ▸ h)

theorem frameGet_append {f : Frame} {x : String} {i : Nat} (extra : Frame) (h : frameGet f x = some i) :
    frameGet (f ++ extra) x = some i := by
  rw [frameGet_eq] at h ⊢
  obtain ⟨e, he, rfl⟩ := Option.map_eq_some_iff.mp h
  rw [List.find?_append, he]; rfl

theorem frameGet_append_self {f : Frame} {x : String} (i : Nat) (h : frameGet f x = none) :
    frameGet (f ++ [(x, i)]) x = some i := by
  rw [frameGet_eq] at h ⊢
  rw [List.find?_append, Option.map_eq_none_iff.mp h]; simp

theorem insertTop_fst (s : St) (key : String) (id : Nat) :
    (insertTop s key id).1 = s ∨
      ∃ f r, s.frames = f :: r ∧ (insertTop s key id).1 = { s with frames := (f ++ [(key, id)]) :: r } := by
  -- no scope; the name is taken; the entry is added
  fun_cases insertTop s key id with
  | case1 | case2 => exact .inl rfl
  | case3 f r h => exact .inr ⟨f, r, h, rfl⟩

theorem quiet_insertTop (s : St) (k : String) (i : Nat) : Quiet s (insertTop s k i).1 := by
  rcases insertTop_fst s k i with e | ⟨f, r, h, e⟩ <;> rw [e]
  · exact .refl s
  · exact ⟨.refl s, rfl, rfl, h ▸ ⟨rfl, _, rfl⟩⟩

theorem declare_cases (name : String) (k : Kind) (p : Option Pos) (c : Cls) (dp : Option Pos) (ok : Sym → St → St) (s : St) :
    declare name k p c dp ok s = cut ((insertTop (s.newSym name k p).1 name (s.newSym name k p).2.id).1.err c dp) ∨
      declare name k p c dp ok s = ok (s.newSym name k p).2 (insertTop (s.newSym name k p).1 name (s.newSym name k p).2.id).1 := by
  unfold declare
  simp only
  split
  · exact .inl rfl
  · exact .inr rfl

theorem declare_taken {name : String} (k : Kind) (p : Option Pos) (c : Cls) (dp : Option Pos) (ok : Sym → St → St) {s : St}
    {f : Frame} {r : List Frame} {i : Nat} (hf : s.frames = f :: r) (hi : frameGet f name = some i) :
    declare name k p c dp ok s = cut ((s.newSym name k p).1.err c dp) := by
  unfold declare insertTop
  simp [St.newSym, hf, hi]

theorem declare_fresh {name : String} (k : Kind) (p : Option Pos) (c : Cls) (dp : Option Pos) (ok : Sym → St → St) {s : St}
    {f : Frame} {r : List Frame} (hf : s.frames = f :: r) (hg : frameGet f name = none) :
    declare name k p c dp ok s =
      ok (s.newSym name k p).2 { (s.newSym name k p).1 with frames := (f ++ [(name, s.syms.length)]) :: r } := by
  unfold declare insertTop
  simp [St.newSym, hf, hg]

theorem quiet_insertOrErr (s : St) (k : String) (i : Nat) (p : Option Pos) : Quiet s (insertOrErr s k i p) := by
  unfold insertOrErr
  split
  · exact (quiet_insertTop s k i).trans (quiet_err _)
  · exact quiet_insertTop s k i

theorem quiet_newSym (s : St) (n : String) (k : Kind) (p : Option Pos) (a : Nat) : Quiet s (s.newSym n k p a).1 :=
  .same rfl rfl rfl rfl

theorem quiet_renameSym (s : St) (i : Nat) (n : String) : Quiet s (renameSym s i n) := .same rfl rfl rfl rfl

theorem quiet_addGroup (p : Option Pos) (s : St) (e : String × Nat) : Quiet s (addGroup p s e) := by
  unfold addGroup
  simp only
  split
  · exact (((quiet_newSym s _ _ _ _).trans (quiet_insertOrErr _ _ _ _)).trans (quiet_renameSym _ _ _)).trans
      (quiet_insertOrErr _ _ _ _)
  · exact (quiet_newSym s _ _ _ _).trans (quiet_insertOrErr _ _ _ _)

theorem checkRegex_tooLong (cfg : Cfg) (s : St) {pat : Bytes} (p : Option Pos) (h : pat.length > cfg.maxRegexLen) :
    checkRegex cfg s pat p = s.err .regexTooLong p := by
  unfold checkRegex; rw [if_pos h]

theorem checkRegex_invalid (cfg : Cfg) (s : St) {pat : Bytes} (p : Option Pos) (hl : ¬ pat.length > cfg.maxRegexLen)
    (h : cfg.groups pat = none) : checkRegex cfg s pat p = s.err .regexInvalid p := by
  unfold checkRegex; rw [if_neg hl, h]

theorem quiet_checkRegex (cfg : Cfg) (s : St) (pat : Bytes) (p : Option Pos) : Quiet s (checkRegex cfg s pat p) := by
  -- too long; does not parse; capture groups switched off; a symbol for every capture group
  fun_cases checkRegex cfg s pat p with
  | case1 | case2 => exact quiet_err s
  | case3 => exact .refl s
  | case4 => exact List.foldlRecOn _ _ (.refl s) fun _ h e _ => h.trans (quiet_addGroup p _ e)

theorem quiet_evalCheck (cfg : Cfg) (e : Node) (p : Option Pos) (s : St) : Quiet s (evalCheck cfg e p s) := by
  unfold evalCheck
  simp only
  split
  · exact quiet_errors s
  · exact (quiet_errors s).trans (quiet_checkRegex cfg _ _ _)

theorem recordPattern_tooLong (cfg : Cfg) (sy : Sym) (e : Node) (s : St) (h1 : (evalPattern cfg.fmtFloat s e).1 ≠ [])
    (h2 : (evalPattern cfg.fmtFloat s e).1.length > cfg.maxRegexLen) :
    recordPattern cfg sy e s =
      St.err { s with errors := s.errors ++ (evalPattern cfg.fmtFloat s e).2 } .regexTooLong sy.pos := by
  unfold recordPattern
  rw [if_neg (by simpa using h1), if_pos h2]

theorem recordPattern_eq (cfg : Cfg) (sy : Sym) (e : Node) (s : St) :
    ∃ more pats, recordPattern cfg sy e s = { s with errors := s.errors ++ more, patterns := pats } := by
  unfold recordPattern
  simp only
  split
  · exact ⟨_, _, rfl⟩
  · split
    · exact ⟨(evalPattern cfg.fmtFloat s e).2 ++ [⟨.regexTooLong, sy.pos⟩], s.patterns, by simp [St.err]⟩
    · exact ⟨_, _, rfl⟩

theorem quiet_recordPattern (cfg : Cfg) (sy : Sym) (e : Node) (s : St) : Quiet s (recordPattern cfg sy e s) := by
  obtain ⟨_, _, h⟩ := recordPattern_eq cfg sy e s
  rw [h]; exact ⟨⟨_, rfl⟩, rfl, rfl, .refl _⟩

theorem quiet_substK (name : String) (b : Bool) (s : St) : Quiet s (substK name b s) := by
  unfold substK; split <;> exact .same rfl rfl rfl rfl

theorem doNext_outside (p : Pos) {s : St} (h : s.decoScopes = []) : doNext p s = s.err .nextOutside (some p) := by
  unfold doNext; rw [h]

theorem quiet_doNext (p : Pos) (s : St) : Quiet s (doNext p s) := by
  -- outside a decorator definition; a second `next`; the scope is captured
  fun_cases doNext p s with
  | case1 | case2 => exact quiet_err s
  | case3 ds rest h => exact ⟨.refl s, rfl, by rw [h]; rfl, .refl _⟩

/-- What a visit may make of a state: errors are only added; and, starting below the depth limit,
    either an error is reported or the visit ends below the limit with the decorator stack at its
    height and the scope stack as it was, the innermost scope extended at most. -/
structure Visit (a b : St) : Prop where
  ext : Ext a b
  kept : a.tooDeep = false →
    (b.tooDeep = false ∧ b.decoScopes.length = a.decoScopes.length ∧ Grows a.frames b.frames) ∨
      a.errors.length < b.errors.length

theorem Quiet.visit {a b : St} (h : Quiet a b) : Visit a b :=
  ⟨h.ext, fun ha => .inl ⟨h.deep.trans ha, h.decos, h.frames⟩⟩

theorem Visit.refl (a : St) : Visit a a := (Quiet.refl a).visit

theorem Visit.trans {a b c : St} (h1 : Visit a b) (h2 : Visit b c) : Visit a c := by
  refine ⟨h1.ext.trans h2.ext, fun ha => ?_⟩
  have l1 := ext_len h1.ext
  have l2 := ext_len h2.ext
  rcases h1.kept ha with ⟨hb, d1, f1⟩ | h
  · rcases h2.kept hb with ⟨hc, d2, f2⟩ | h
    · exact .inl ⟨hc, d2.trans d1, f1.trans f2⟩
    · exact .inr (by omega)
  · exact .inr (by omega)

theorem leave_deep {s : St} (k : St → St) (h : s.tooDeep = true) : leave s k = s := by
  unfold leave; rw [if_pos h]

theorem leave_below {s : St} (k : St → St) (h : s.tooDeep = false) : leave s k = cut (k s) := by
  unfold leave; rw [h]; rfl

theorem visit_leave {k : St → St} (hk : ∀ s, Visit s (k s)) (s : St) : Visit s (leave s k) := by
  cases h : s.tooDeep
  · rw [leave_below k h]; exact (hk s).trans (quiet_cut _).visit
  · rw [leave_deep k h]; exact .refl s

theorem ext_leave {k : St → St} (hk : ∀ s, Ext s (k s)) (s : St) : Ext s (leave s k) := by
  cases h : s.tooDeep
  · rw [leave_below k h]; exact (hk s).trans (quiet_cut _).ext
  · rw [leave_deep k h]; exact .refl s

theorem ext_leave' {f k : St → St} (hf : ∀ x, Ext x (f x)) (hk : ∀ x, Ext x (k x)) (s : St) :
    Ext s (leave (f s) k) := Ext.trans (hf s) (ext_leave hk _)

theorem ext_depthCut (cfg : Cfg) (n : Node) (s : St) : Ext s (depthCut cfg n s) := by
  unfold depthCut
  cases s.tooDeep with
  | true => exact .refl s
  | false => exact ⟨_, rfl⟩

/-- beyond the depth limit: one error, the first time -/
theorem depthCut_lt (cfg : Cfg) (n : Node) {s : St} (h : s.tooDeep = false) :
    s.errors.length < (depthCut cfg n s).errors.length := by
  unfold depthCut; rw [h]; exact lt_err s

theorem guarded_cases (cfg : Cfg) (n : Node) (k : St → St) (s : St) :
    guarded cfg n k s = depthCut cfg n s ∨ guarded cfg n k s = k { s with depth := s.depth + 1 } := by
  unfold guarded
  split
  · exact .inl rfl
  · exact .inr rfl

theorem visit_guarded (cfg : Cfg) (n : Node) {k : St → St} (hk : ∀ s, Visit s (k s)) (s : St) :
    Visit s (guarded cfg n k s) := by
  rcases guarded_cases cfg n k s with e | e <;> rw [e]
  · exact ⟨ext_depthCut cfg n s, fun hs => .inr (depthCut_lt cfg n hs)⟩
  · exact Visit.trans (b := { s with depth := s.depth + 1 }) (Quiet.visit (.same rfl rfl rfl rfl)) (hk _)

theorem ext_guarded (cfg : Cfg) (n : Node) {k : St → St} (hk : ∀ s, Ext s (k s)) (s : St) : Ext s (guarded cfg n k s) := by
  rcases guarded_cases cfg n k s with e | e <;> rw [e]
  · exact ext_depthCut cfg n s
  · exact Ext.trans (b := { s with depth := s.depth + 1 }) (.refl s) (hk _)

/-- A bracket: `f` enters (pushes a scope, opens a decorator scope), `w` visits, `g` leaves.  If
    `g` undoes on the stacks what `f` did, the whole is a visit. -/
theorem visit_bracket (f : St → St) {w g : St → St} (hw : ∀ s, Visit s (w s)) (s : St)
    (hf : (f s).errors = s.errors ∧ (f s).tooDeep = s.tooDeep) (hg : ∀ t, Ext t (g t) ∧ (g t).tooDeep = t.tooDeep)
    (h : ∀ t, t.decoScopes.length = (f s).decoScopes.length → Grows (f s).frames t.frames →
      (g t).decoScopes.length = s.decoScopes.length ∧ Grows s.frames (g t).frames) :
    Visit s (leave (w (f s)) g) := by
  have l2 := ext_len (ext_leave (fun t => (hg t).1) (w (f s)))
  refine ⟨((ext_of_errors_eq hf.1).trans (hw _).ext).trans (ext_leave (fun t => (hg t).1) _), fun hs => ?_⟩
  rcases (hw (f s)).kept (hf.2.trans hs) with ⟨ht, hd, hfr⟩ | hlt
  · rw [leave_below g ht]
    exact .inl ⟨(hg _).2.trans ht, h _ hd hfr⟩
  · exact .inr (by rw [hf.1] at hlt; omega)

/-- a scope pushed, visited, and dropped after a quiet step `q` (the sweep, or nothing) -/
theorem visit_scope {w q : St → St} (hw : ∀ s, Visit s (w s)) (hq : ∀ s, Quiet s (q s)) (fr : Frame) (s : St) :
    Visit s (leave (w (push s fr)) fun s => pop (q s)) :=
  visit_bracket (push · fr) (g := fun s => pop (q s)) hw s ⟨rfl, rfl⟩ (fun t => ⟨(hq t).ext, (hq t).deep⟩)
    fun t hd hf => ⟨(hq t).decos.trans hd, .of_eq (Grows.tail (f := fr) (hf.trans (hq t).frames))⟩

/-- `closeDeco` drops the innermost decorator scope; the rest of it (the report, the zygote) is a quiet step -/
theorem quiet_closeDeco (sy : Sym) (wp : Option Pos) (t : St) :
    Quiet { t with decoScopes := t.decoScopes.tail } (closeDeco sy wp t) := by
  unfold closeDeco
  cases h : t.decoScopes with
  | nil => exact .same rfl rfl h rfl
  | cons ds rest =>
    dsimp only
    split
    · exact ⟨⟨_, rfl⟩, rfl, rfl, .refl _⟩
    · exact .same rfl rfl rfl rfl

theorem tr_closeDeco (sy : Sym) (w : Option Pos) : ∀ s, Ext s (closeDeco sy w s) := fun s => (quiet_closeDeco sy w s).ext

theorem visit_decoBody {w : St → St} (hw : ∀ s, Visit s (w s)) (sy : Sym) (wp : Option Pos) (s : St) :
    Visit s (leave (w (openDecoScope s)) (closeDeco sy wp)) :=
  visit_bracket openDecoScope hw s ⟨rfl, rfl⟩ (fun t => ⟨(quiet_closeDeco sy wp t).ext, (quiet_closeDeco sy wp t).deep⟩)
    fun t hd hf => ⟨by rw [(quiet_closeDeco sy wp t).decos, List.length_tail, hd]; rfl, hf.trans (quiet_closeDeco sy wp t).frames⟩

theorem visit_declare {name : String} (k : Kind) (p : Option Pos) (c : Cls) (dp : Option Pos) {ok : Sym → St → St}
    (hok : ∀ sy s, Visit s (ok sy s)) (s : St) : Visit s (declare name k p c dp ok s) := by
  have h := ((quiet_newSym s name k p 0).trans (quiet_insertTop _ name (s.newSym name k p).2.id)).visit
  rcases declare_cases name k p c dp ok s with e | e <;> rw [e]
  · exact h.trans ((quiet_err _).trans (quiet_cut _)).visit
  · exact h.trans (hok _ _)

theorem closed_visit (cfg : Cfg) : Closed cfg (fun _ => True) (fun _ => True) Visit where
  refl := .refl
  trans := .trans
  guarded := visit_guarded cfg
  leave := visit_leave
  err _ _ s := (quiet_err s).visit
  cut s := (quiet_cut s).visit
  block hw := visit_scope hw quiet_sweep []
  declare k p c dp _ _ hok := visit_declare k p c dp hok
  used s _ _ := (quiet_markUsed s _).visit
  decorated hwb s _ := visit_scope hwb .refl _ s
  substK name b s := (quiet_substK name b s).visit
  evalCheck e p s := (quiet_evalCheck cfg e p s).visit
  recordPattern sy e s := (quiet_recordPattern cfg sy e s).visit
  doNext p s := (quiet_doNext p s).visit
  decoBody sy wp hw := visit_decoBody hw sy wp

theorem walk_visit (cfg : Cfg) (n : Node) (s : St) : Visit s (walk cfg n s) :=
  walk_rel (closed_visit cfg) n (fun _ _ => trivial) (fun _ _ => trivial) s

theorem walkList_visit (cfg : Cfg) (ns : Nodes) (s : St) : Visit s (walkList cfg ns s) :=
  walkList_rel (closed_visit cfg) ns (fun _ _ => trivial) (fun _ _ => trivial) s

theorem walk_ext (cfg : Cfg) (n : Node) (s : St) : Ext s (walk cfg n s) := (walk_visit cfg n s).ext

theorem walkList_ext (cfg : Cfg) (ns : Nodes) (s : St) : Ext s (walkList cfg ns s) := (walkList_visit cfg ns s).ext

/-! `Visit` as predicates on state transformers, in two steps: `Tr f` is its part about the errors, the
    decorator stack and the limit flag; `FK f` adds the scope stack. -/

/-- `f` never removes an error and, from a state that has not hit the depth limit, either leaves the
    decorator stack at the same height (and the limit not hit) or reports an error -/
structure Tr (f : St → St) : Prop where
  mono : ∀ s, Ext s (f s)
  keeps : ∀ s, s.tooDeep = false →
    ((f s).decoScopes.length = s.decoScopes.length ∧ (f s).tooDeep = false) ∨ s.errors.length < (f s).errors.length

/-- frame keeping: below the depth limit a visit leaves the scope stack as it found it (more
    entries in the innermost scope at most), or reports an error -/
structure FK (f : St → St) : Prop where
  tr : Tr f
  fr : ∀ s, s.tooDeep = false → Grows s.frames (f s).frames ∨ s.errors.length < (f s).errors.length

theorem FK.of_visit {f : St → St} (h : ∀ s, Visit s (f s)) : FK f :=
  ⟨⟨fun s => (h s).ext, fun s hs => ((h s).kept hs).imp (fun h => ⟨h.2.1, h.1⟩) id⟩,
   fun s hs => ((h s).kept hs).imp (·.2.2) id⟩

theorem walkList_fk (cfg : Cfg) : ∀ (ns : Nodes), FK (walkList cfg ns) := fun ns => .of_visit (walkList_visit cfg ns)
theorem fk_err (c : Cls) (p : Option Pos) : FK (fun s => s.err c p) := .of_visit fun s => (quiet_err s).visit

end MtailVerif.Scope
