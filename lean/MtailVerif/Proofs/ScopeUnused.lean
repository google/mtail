import MtailVerif.Proofs.ScopeInv
import MtailVerif.Proofs.ScopeDup
/-! A declaration nobody refers to is reported when its block ends.  `G P x id` is a well-formedness
    invariant of the checker's state (symbol ids are their indices, every entry of every scope and
    every use mark points at an existing symbol) that, when `P` holds, also says: the symbol `id` is
    the one named `x`, nobody has marked it used, and every entry pointing at it is keyed `x`.
    `walk_g` keeps it along any tree that does not mention `x` (with `P := False` it is plain
    well-formedness, kept along every tree).  With the scope stack kept by every visit (`walk_visit`)
    the entry made by the declaration is still in its block's scope when the block is swept
    (`block_unused`), hence `unused_fires`. -/
namespace MtailVerif.Scope
open MtailVerif MtailVerif.Ast

/-- a frame is well formed (entries point at existing symbols) and, when `P`, keeps the symbol
    `id` under the key `x` only -/
def FrG (P : Prop) (x : String) (id : Nat) (syms : List Sym) (f : Frame) : Prop :=
  ∀ e ∈ f, e.2 < syms.length ∧ (P → e.2 = id → e.1 = x)

/-- well-formedness of the checker's state (`ids` is `Ids s`; `ub`: every use mark is the id of a symbol);
    and, when `P`: the symbol `id` is the non-capture-group symbol named `x`, nobody has marked it used, and
    every entry that points at it is keyed `x` -/
structure G (P : Prop) (x : String) (id : Nat) (s : St) : Prop where
  ids : ∀ (i : Nat) (sy : Sym), s.syms[i]? = some sy → sy.id = i
  ub : ∀ i ∈ s.used, i < s.syms.length
  frames : ∀ f ∈ s.frames, FrG P x id s.syms f
  decos : ∀ f ∈ s.decoScopes, FrG P x id s.syms f
  zyg : ∀ z ∈ s.zygotes, FrG P x id s.syms z.2
  unused : P → id ∉ s.used
  symx : P → ∃ sy, s.syms[id]? = some sy ∧ sy.name = x ∧ sy.kind ≠ .capref

theorem g_init (x : String) : G False x 0 ({} : St) :=
  ⟨by intro i sy h; simp at h, by intro i h; simp at h, by intro f h; simp at h, by intro f h; simp at h,
   by intro z h; simp at h, fun h => h.elim, fun h => h.elim⟩

section
variable {P : Prop} {x : String} {id : Nat}

/-- what `FrG` says of one entry -/
def EntryG (P : Prop) (x : String) (id : Nat) (syms : List Sym) (e : String × Nat) : Prop :=
  e.2 < syms.length ∧ (P → e.2 = id → e.1 = x)

theorem G.entries {s : St} (h : G P x id s) : Entries (EntryG P x id s.syms) s := ⟨h.frames, h.decos, h.zyg⟩

theorem G.scopes {a b : St} (h : G P x id a) (hs : b.syms = a.syms) (hu : b.used = a.used)
    (he : Entries (EntryG P x id a.syms) b) : G P x id b :=
  ⟨hs ▸ h.ids, hs ▸ hu ▸ h.ub, hs ▸ he.frames, hs ▸ he.decos, hs ▸ he.zyg, hu ▸ h.unused, hs ▸ h.symx⟩

theorem G.core {a b : St} (h : G P x id a) (c : Core a b) : G P x id b :=
  h.scopes c.syms c.used (h.entries.mono c.frames c.decos c.zyg fun _ he => he)

theorem G.newSym {s : St} (h : G P x id s) (n : String) (k : Kind) (p : Option Pos) (a : Nat) : G P x id (s.newSym n k p a).1 :=
  have hl : s.syms.length ≤ (s.newSym n k p a).1.syms.length := by simp [St.newSym]
  have he : Entries (EntryG P x id (s.newSym n k p a).1.syms) (s.newSym n k p a).1 :=
    h.entries.mono rfl rfl rfl fun _ he => ⟨Nat.lt_of_lt_of_le he.1 hl, he.2⟩
  ⟨Ids.newSym h.ids n k p a, fun i hi => Nat.lt_of_lt_of_le (h.ub i hi) hl, he.frames, he.decos, he.zyg, h.unused,
   fun hp => let ⟨sy, h1, h2⟩ := h.symx hp; ⟨sy, (List.getElem?_append_left (List.getElem?_eq_some_iff.mp h1).1).trans h1, h2⟩⟩

theorem G.ne_of_cap {s : St} (h : G P x id s) {i : Nat} (c : Cap s i) (hp : P) : i ≠ id := fun e =>
  let ⟨_, h1, _, h3⟩ := h.symx hp
  let ⟨_, g1, gk⟩ := c
  h3 (Option.some.inj ((e ▸ g1).symm.trans h1) ▸ gk)

theorem G.renameSym {s : St} {i : Nat} (h : G P x id s) (n : String) (c : Cap s i) : G P x id (renameSym s i n) := by
  have hl : (Scope.renameSym s i n).syms.length = s.syms.length := by simp [Scope.renameSym]
  have he : Entries (EntryG P x id (Scope.renameSym s i n).syms) (Scope.renameSym s i n) :=
    h.entries.mono rfl rfl rfl fun _ he => ⟨hl ▸ he.1, he.2⟩
  refine ⟨Ids.renameSym h.ids i n, fun j hj => hl ▸ h.ub j hj, he.frames, he.decos, he.zyg, h.unused, fun hp => ?_⟩
  obtain ⟨sy, h1, h2⟩ := h.symx hp
  refine ⟨sy, ?_, h2⟩
  change (s.syms.modify i _)[id]? = _
  rw [List.getElem?_modify, h1]
  exact congrArg some (if_neg (h.ne_of_cap c hp))

theorem G.own {s : St} (h : G P x id s) {key : String} {i : Nat} (o : Own s key i) : EntryG P x id s.syms (key, i) := by
  obtain ⟨sy, hs, ho⟩ := o
  refine ⟨(List.getElem?_eq_some_iff.mp hs).1, fun hp (e : i = id) => ?_⟩
  obtain ⟨sy', h1, h2, h3⟩ := h.symx hp
  cases (e ▸ hs).symm.trans h1
  exact (ho.resolve_left h3).symm.trans h2

theorem G.flatten {s : St} (h : G P x id s) (fr : List Frame) : FrG P x id s.syms (flatten s fr []) :=
  flatten_all (fun i sy hs => h.own ⟨sy, h.ids i sy hs ▸ hs, .inr rfl⟩) fr [] nofun

theorem G.markUsed {s : St} (h : G P x id s) {i : Nat} (hi : i < s.syms.length) (hne : P → i ≠ id) : G P x id (markUsed s i) := by
  unfold Scope.markUsed
  split
  · exact h
  · exact ⟨h.ids, fun j hj => (List.mem_cons.mp hj).elim (· ▸ hi) (h.ub j), h.frames, h.decos, h.zyg,
      fun hp hm => (List.mem_cons.mp hm).elim (fun e => hne hp e.symm) (h.unused hp), h.symx⟩

/-- a symbol found under another name than `x`, or of kind capture group, is not the symbol `id` -/
theorem G.lookup {s : St} (h : G P x id s) {name : String} {k : Kind} {sy : Sym}
    (hl : lookup s name k = some sy) (hne : P → name ≠ x ∨ k = .capref) : sy.id < s.syms.length ∧ (P → sy.id ≠ id) := by
  obtain ⟨f, hf, i, hm, hs, hk⟩ := lookup_some hl
  have hi : sy.id = i := h.ids i sy hs
  have := h.frames f hf (name, i) hm
  refine ⟨by rw [hi]; exact this.1, ?_⟩
  intro hp he
  rcases hne hp with hn | hc
  · exact hn (this.2 hp (by rw [← hi]; exact he))
  · obtain ⟨sy0, g1, _, g3⟩ := h.symx hp
    have : s.syms[id]? = some sy := by rw [← he, hi]; exact hs
    rw [this] at g1
    cases g1
    exact g3 (by rw [hk, hc])

end

theorem kept_g (P : Prop) (x : String) (id : Nat) : Kept (fun _ => True) (fun y => P → y ≠ x) (G P x id) where
  core := G.core
  push fr _ h := h.scopes rfl rfl (h.entries.push (h.flatten fr))
  pop h := h.scopes rfl rfl h.entries.pop
  newSym p a _ _ h := h.newSym _ _ p a
  enter hf o h := h.scopes rfl rfl (h.entries.enter hf (h.own o))
  rename n _ _ c h := h.renameSym n c
  used hl hm h :=
    -- the lookup is for a capture group, or else `hm` says that the name is not `x`
    have := h.lookup hl fun hp => (Decidable.em _).symm.imp (hm · hp) fun h => h
    h.markUsed this.1 this.2
  capture hd h := h.scopes rfl rfl (h.entries.capture hd (h.flatten _))
  openDeco h := h.scopes rfl rfl h.entries.openDecoScope
  close i _ _ _ hd h := h.scopes rfl rfl (h.entries.close i hd)

theorem walk_g (cfg : Cfg) (P : Prop) (x : String) (id : Nat) (n : Node) (hm : P → mentions x n = false) (s : St) :
    G P x id s → G P x id (walk cfg n s) :=
  walk_rel (kept_g P x id).closed n (fun _ _ => trivial) (fun y hy hp e => by rw [e, hm hp] at hy; cases hy) s

theorem walkList_g (cfg : Cfg) (P : Prop) (x : String) (id : Nat) (ns : Nodes) (hm : P → mentionsList x ns = false) (s : St) :
    G P x id s → G P x id (walkList cfg ns s) :=
  walkList_rel (kept_g P x id).closed ns (fun _ _ => trivial) (fun y hy hp e => by rw [e, hm hp] at hy; cases hy) s

/-- `Tr f`, and `f` keeps well-formedness -/
structure TrW (x : String) (f : St → St) : Prop where
  tr : Tr f
  wf : ∀ s, G False x 0 s → G False x 0 (f s)

theorem trW_walkList (cfg : Cfg) (x : String) (ns : Nodes) : TrW x (walkList cfg ns) :=
  ⟨(walkList_fk cfg ns).tr, walkList_g cfg False x 0 ns (fun hp => hp.elim)⟩

/-- the declaration of `x` is pending: its symbol is in the innermost scope under the key `x`, and
    nobody has used it -/
def Pending (x : String) (s : St) : Prop := ∃ id, G True x id s ∧ ∃ f r, s.frames = f :: r ∧ (x, id) ∈ f

/-- the sweep at the end of a block reports the unused symbol -/
theorem sweep_fires {x : String} {s : St} (h : Pending x s) : s.errors.length < (sweep s).errors.length := by
  obtain ⟨id, h, f, r, hf, hmem⟩ := h
  obtain ⟨sy, h1, _, h3⟩ := h.symx trivial
  have hu : unusedErr s (x, id) = some ⟨.unused sy.kind, sy.pos⟩ :=
    unusedErr_unused (x, id) h1 (by rw [h.ids id sy h1]; exact h.unused trivial) h3
  have := List.length_pos_of_mem (List.mem_filterMap.mpr ⟨_, hmem, hu⟩)
  rw [sweep_eq, hf]
  simp only [List.headD_cons, List.length_append]
  omega

theorem g_weaken {x : String} {id : Nat} {s : St} (h : G True x id s) : G False x 0 s :=
  have he : Entries (EntryG False x 0 s.syms) s := h.entries.mono rfl rfl rfl fun _ he => ⟨he.1, False.elim⟩
  ⟨h.ids, h.ub, he.frames, he.decos, he.zyg, False.elim, False.elim⟩

theorem keeps_pending {x : String} {f : St → St} (hv : ∀ s, Visit s (f s)) (hg : ∀ id s, G True x id s → G True x id (f s)) :
    Keeps (Pending x) f :=
  .of_visit hv fun s _ hgr ⟨id, g, _, r, hf, hx⟩ =>
    let ⟨_, he⟩ := (hf ▸ hgr).cons
    ⟨id, hg id s g, _, r, he, List.mem_append_left _ hx⟩

theorem G.fresh {x : String} {s : St} {k : Kind} (h : G False x 0 s) (p : Option Pos) (a : Nat) (hk : k ≠ .capref) :
    G True x s.syms.length (s.newSym x k p a).1 :=
  have hl : s.syms.length < (s.newSym x k p a).1.syms.length := by simp [St.newSym]
  have he : Entries (EntryG True x s.syms.length (s.newSym x k p a).1.syms) (s.newSym x k p a).1 :=
    h.entries.mono rfl rfl rfl fun _ he => ⟨Nat.lt_trans he.1 hl, fun _ e => absurd e (Nat.ne_of_lt he.1)⟩
  ⟨Ids.newSym h.ids x k p a, fun i hi => Nat.lt_trans (h.ub i hi) hl, he.frames, he.decos, he.zyg,
   fun _ hm => Nat.lt_irrefl _ (h.ub _ hm), fun _ => ⟨_, List.getElem?_concat_length, rfl, hk⟩⟩

theorem decl_unused (cfg : Cfg) {x : String} {n : Node} (h : declName n = some x) (hm : mentions x n = false) :
    Leads (fun s => G False x 0 s ∧ s.frames ≠ []) (Pending x) (walk cfg n) := by
  obtain ⟨k, p, c, dp, ok, hk, e, hok⟩ := walk_declaring cfg h
  have hv := hok (closed_visit cfg) (fun _ _ => trivial) fun _ _ => trivial
  have hg sy id : ∀ s, G True x id s → G True x id (ok sy s) :=
    hok (kept_g True x id).closed (fun _ _ => trivial) (fun y hy _ e => by rw [e, hm] at hy; cases hy) sy
  have hJ s f r (hw : G False x 0 s) (hf : s.frames = f :: r) :
      Pending x { (s.newSym x k p).1 with frames := (f ++ [(x, s.syms.length)]) :: r } :=
    ⟨_, (kept_g True x _).enter (s := (s.newSym x k p).1) hf (own_newSym s x k p 0) (hw.fresh p 0 hk), _, r, rfl, by simp⟩
  rw [e]
  exact .guarded (fun _ _ h => ⟨h.1.core (core_depth _), h.2⟩)
    (leads_declare k p c dp (fun _ h => h.2) (fun s f r hw hf _ => hJ s f r hw.1 hf) hv fun sy => keeps_pending (hv sy) (hg sy))

theorem rest_unused (cfg : Cfg) (x : String) : ∀ ns, mentionsList x ns = false →
    FiresOn (Pending x) fun s => leave (walkList cfg ns s) fun s => pop (sweep s)
  | .nil, _ => firesOn_leave fun _ _ h => sweep_fires h
  | .cons n ns, hm =>
    .after (g := fun s => leave (walkList cfg ns s) _)
      (keeps_pending (walk_visit cfg n) fun id => walk_g cfg True x id n fun _ => (of_nor hm).1)
      (rest_unused cfg x ns (of_nor hm).2) (ext_leave' (walkList_ext cfg ns) ext_popSweep)

theorem block_unused (cfg : Cfg) (x : String) : ∀ ns, declaredIn x ns = true → mentionsList x ns = false →
    FiresOn (fun s => G False x 0 s ∧ s.frames ≠ []) fun s => leave (walkList cfg ns s) fun s => pop (sweep s)
  | .nil, h, _ => nomatch h
  | .cons n ns, h, hm => by
    have mono := ext_leave' (walkList_ext cfg ns) ext_popSweep
    by_cases hd : declName n = some x
    · exact .after (g := fun s => leave (walkList cfg ns s) _) (decl_unused cfg hd (of_nor hm).1)
        (rest_unused cfg x ns (of_nor hm).2) mono
    · exact .after (g := fun s => leave (walkList cfg ns s) _)
        (.of_visit (walk_visit cfg n) fun s _ hg ⟨hw, hne⟩ => ⟨walk_g cfg False x 0 n (fun hp => hp.elim) s hw, hg.ne_nil hne⟩)
        (block_unused cfg x ns ((of_or h).resolve_left fun h => hd (beq_iff_eq.mp h)) (of_nor hm).2) mono

mutual
/-- does some block of the tree hold a statement that declares `x`? -/
def declaresInBlock (x : String) : Node → Bool
  | .stmts cs => declaredIn x cs || declaresInBlockList x cs
  | .cond _ t e => declaresInBlock x t || declaresInBlock x e
  | .decodecl _ block _ => declaresInBlock x block
  | .deco _ block _ => declaresInBlock x block
  | _ => false
def declaresInBlockList (x : String) : Nodes → Bool
  | .nil => false
  | .cons n ns => declaresInBlock x n || declaresInBlockList x ns
end

theorem unused_fires_both (cfg : Cfg) (x : String) :
    (∀ n, declaresInBlock x n = true → mentions x n = false → FiresOn (G False x 0) (walk cfg n)) ∧
    ∀ ns, declaresInBlockList x ns = true → mentionsList x ns = false → FiresOn (G False x 0) (walkList cfg ns) := by
  have I := kept_g False x 0
  have S := I.stable
  have K n : Keeps (G False x 0) (walk cfg n) :=
    .of_visit (walk_visit cfg n) fun s _ _ => walk_g cfg False x 0 n (fun hp => hp.elim) s
  -- one case per clause of `declaresInBlock`, in the order written there, then those of `declaresInBlockList`
  apply declaresInBlock.mutual_induct
  case case1 =>
    exact fun cs ih h hm => (of_or h).elim
      (fun h => fires_block S.depth (fun s hw => ⟨S.push s hw, by simp [push]⟩) (block_unused cfg x cs h hm))
      fun h => fires_stmts S (ih h hm)
  case case2 =>
    exact fun c t e iht ihe h hm => fires_cond S (K c) (K t)
      ((of_or h).elim (fun h => .inl (.inr (iht h (of_nor (of_nor hm).1).2))) fun h => .inr (ihe h (of_nor hm).2))
  case case3 => exact fun _ _ _ ih h hm => fires_decodecl S (I.declared trivial) I.openDeco (ih h hm)
  case case4 =>
    exact fun _ _ _ ih h hm =>
      fires_deco S (fun fr hl h => I.push fr (I.used hl (fun _ hp => hp.elim) h)) (ih h (of_nor hm).2)
  case case5 => intros; simp only [declaresInBlock, Bool.false_eq_true, *] at *   -- `| _ => false`
  case case6 => exact nofun
  case case7 =>
    exact fun n ns ihn ihns h hm => fires_cons (K n) ((of_or h).imp (ihn · (of_nor hm).1) (ihns · (of_nor hm).2))

/-- `FiresOn (G False x 0)`: below the depth limit, from a well-formed state, `f` reports an error -/
def FiresW (x : String) (f : St → St) : Prop :=
  ∀ s, s.tooDeep = false → G False x 0 s → s.errors.length < (f s).errors.length

/-- **a declaration nobody refers to is rejected, wherever it stands** -/
theorem unused_fires (cfg : Cfg) (x : String) (n : Node) : declaresInBlock x n = true → mentions x n = false →
    FiresW x (walk cfg n) := (unused_fires_both cfg x).1 n

theorem unusedList_fires (cfg : Cfg) (x : String) : ∀ (ns : Nodes), declaresInBlockList x ns = true → mentionsList x ns = false →
    FiresW x (walkList cfg ns) := (unused_fires_both cfg x).2

end MtailVerif.Scope
