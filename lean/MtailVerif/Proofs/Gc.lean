import MtailVerif.Model.Gc
import MtailVerif.Proofs.Metric
/-! C10: the GC closure of the Go code refines `Spec.gc`.  The limit loop is followed round by round
    (on the map a round erases an entry that is no newer than any: `removeOldestS_cons`); the index
    walk is stated on the slice split at the index. -/
namespace MtailVerif.Gc
open MtailVerif MtailVerif.Metric
variable {V : Type}

theorem oldestS_some (tm : V → Int) (c : Entry V) (s : Spec V) :
    ∃ o, oldestS tm (some c) s = some o ∧ o ∈ c :: s ∧ ∀ x ∈ c :: s, tm o.value ≤ tm x.value := by
  induction s generalizing c with
  | nil => exact ⟨c, rfl, .head _, by simp⟩
  | cons e s ih =>
    simp only [oldestS, List.forall_mem_cons] at ih ⊢
    by_cases hlt : tm e.value < tm c.value
    · obtain ⟨o, ho, hm, hoe, hmin⟩ := ih e
      exact ⟨o, (if_pos hlt).trans ho, .tail _ hm, by omega, hoe, hmin⟩
    · obtain ⟨o, ho, hm, hoc, hmin⟩ := ih c
      exact ⟨o, (if_neg hlt).trans ho, List.mem_cons.mpr ((List.mem_cons.mp hm).imp_right (.tail _)), hoc,
        by omega, hmin⟩

/-- one round of the limit loop on a non-empty map erases an entry that is no newer than any -/
theorem removeOldestS_cons (tm : V → Int) (c : Entry V) (r : Spec V) :
    ∃ o ∈ c :: r, (∀ x ∈ c :: r, tm o.value ≤ tm x.value) ∧
      removeOldestS tm (c :: r) = (c :: r).eraseP (·.labels = o.labels) := by
  obtain ⟨o, ho, hm, hmin⟩ := oldestS_some tm c r
  exact ⟨o, hm, hmin, by simp only [removeOldestS, oldestS, ho, eraseS_eq]⟩

theorem removeOldestS_sublist (tm : V → Int) (s : Spec V) : (removeOldestS tm s).Sublist s := by
  cases s with
  | nil => exact .refl _
  | cons c r =>
    obtain ⟨o, -, -, h⟩ := removeOldestS_cons tm c r
    exact h ▸ List.eraseP_sublist

theorem removeOldestS_length (tm : V → Int) (s : Spec V) : (removeOldestS tm s).length = s.length - 1 := by
  cases s with
  | nil => rfl
  | cons c r =>
    obtain ⟨o, hm, -, h⟩ := removeOldestS_cons tm c r
    rw [h, List.length_eraseP_of_mem hm (by simp)]

/-- label tuples being distinct, the entry a round takes is the one it chose: no newer than any -/
theorem removeOldestS_oldest (tm : V → Int) (s : Spec V) (hnd : (s.map (·.labels)).Nodup) {x : Entry V}
    (hx : x ∈ s) (hxr : x ∉ removeOldestS tm s) : ∀ k ∈ s, tm x.value ≤ tm k.value := by
  cases s with
  | nil => cases hx
  | cons c r =>
    obtain ⟨o, hm, hmin, h⟩ := removeOldestS_cons tm c r
    have hlab : x.labels = o.labels := Decidable.byContradiction fun hne =>
      hxr (h ▸ (List.mem_eraseP_of_neg (by simpa using hne)).mpr hx)
    exact eq_of_nodup_map hnd hx hm hlab ▸ hmin

theorem dropOldest_sublist (tm : V → Int) (n : Nat) (s : Spec V) : (dropOldest tm n s).Sublist s := by
  induction n generalizing s with
  | zero => exact .refl _
  | succ n ih => exact (ih _).trans (removeOldestS_sublist tm s)

theorem oldestOf_mem (tm : V → Int) {cur : Option (LV V)} {lvs : List (LV V)} {o : LV V}
    (h : oldestOf tm cur lvs = some o) : cur = some o ∨ o ∈ lvs := by
  -- the clauses of `oldestOf` in order; the `if` of the last one gives cases 3 and 4
  fun_induction oldestOf tm cur lvs
  case case1 => exact .inl h
  case case2 ih | case3 ih =>
    exact .inr ((ih h).elim (fun e => Option.some.inj e ▸ .head _) (.tail _))
  case case4 ih => exact (ih h).imp_right (.tail _)

theorem oldestS_abs (tm : V → Int) (cur : Option (LV V)) (lvs : List (LV V)) :
    oldestS tm (cur.map toEntry) (lvs.map toEntry) = (oldestOf tm cur lvs).map toEntry := by
  fun_induction oldestOf tm cur lvs  -- cases as in `oldestOf_mem`
  case case1 cur => cases cur <;> rfl
  case case2 ih => exact ih
  case case3 hlt ih | case4 hlt ih => simpa [oldestS, toEntry, hlt] using ih

section
variable (hinj : ∀ a b : List Bytes, Key.encode a = Key.encode b → a = b)
include hinj

theorem removeOldest_refines (tm : V → Int) (m : Metric V) (hi : Inv m) :
    Inv (removeOldest tm m) ∧ abs (removeOldest tm m) = removeOldestS tm (abs m) ∧
    (removeOldest tm m).nkeys = m.nkeys := by
  have ho : oldestS tm none (abs m) = _ := oldestS_abs tm none m.lvs
  unfold removeOldest removeOldestS
  rw [ho]
  cases h : oldestOf tm none m.lvs with
  | none => exact ⟨hi, rfl, rfl⟩
  | some lv =>
    have hl : lv.labels.length = m.nkeys := hi.arity lv ((oldestOf_mem tm h).resolve_left nofun)
    simp only [removeDatum_eq hinj hi hl, Option.map_some]
    exact ⟨inv_eraseP hi _, eraseS_abs _ m, trivial⟩

theorem limitLoop_refines (tm : V → Int) (limit : Nat) (i : Nat) (m : Metric V) (hi : Inv m) :
    Inv (limitLoop tm limit i m) ∧ abs (limitLoop tm limit i m) = dropOldest tm (i - limit) (abs m) ∧
    (limitLoop tm limit i m).nkeys = m.nkeys := by
  induction i generalizing m with
  | zero => rw [limitLoop, Nat.zero_sub]; split <;> exact ⟨hi, rfl, rfl⟩
  | succ i ih =>
    rw [limitLoop]
    by_cases hgt : i + 1 > limit
    · obtain ⟨h1, h2, h3⟩ := removeOldest_refines hinj tm m hi
      obtain ⟨g1, g2, g3⟩ := ih (removeOldest tm m) h1
      rw [if_pos hgt, Nat.succ_sub (Nat.le_of_lt_succ hgt)]
      exact ⟨g1, g2.trans (h2 ▸ rfl), g3.trans h3⟩
    · rw [if_neg hgt, Nat.sub_eq_zero_of_le (Nat.le_of_not_gt hgt)]
      exact ⟨hi, rfl, rfl⟩

theorem limitPhase_refines (tm : V → Int) (limit : Int) (m : Metric V) (hi : Inv m) :
    Inv (limitPhase tm limit m) ∧
    abs (limitPhase tm limit m) =
      (if limit > 0 ∧ ((abs m).length : Int) ≥ limit then dropOldest tm ((abs m).length - limit.toNat) (abs m) else abs m) ∧
    (limitPhase tm limit m).nkeys = m.nkeys := by
  unfold limitPhase
  rw [show (abs m).length = m.lvs.length by simp [abs_eq]]
  split
  · exact limitLoop_refines hinj tm limit.toNat m.lvs.length m hi
  · exact ⟨hi, rfl, rfl⟩

/-- the index walk, with the slice split at the index: what is behind stays, what is ahead is filtered -/
theorem expLoop_filter (tm : V → Int) (now : Int) (fuel : Nat) (m : Metric V) (hi : Inv m)
    (pre suf : List (LV V)) (hm : m.lvs = pre ++ suf) (hfuel : suf.length < fuel) :
    ∃ m', expLoop tm now fuel pre.length m = .ok m' ∧ Inv m' ∧ m'.nkeys = m.nkeys ∧
      m'.lvs = pre ++ suf.filter (fun lv => !expired tm now lv) := by
  induction fuel generalizing m pre suf with
  | zero => omega
  | succ fuel ih =>
    unfold expLoop
    rw [hm, List.getElem?_append_right (Nat.le_refl _), Nat.sub_self]
    cases suf with
    | nil => exact ⟨m, rfl, hi, rfl, by simpa using hm⟩
    | cons lv suf =>
      simp only [List.getElem?_cons_zero]
      by_cases hexp : expired tm now lv = true
      · have hl : lv.labels.length = m.nkeys := hi.arity lv (by simp [hm])
        obtain ⟨m', h1, h2, h3, h4⟩ := ih _ (inv_eraseP hi (·.labels = lv.labels)) pre suf (hi.eraseP_at hm)
          (by simp at hfuel; omega)
        exact ⟨m', by simpa [hexp, removeDatum_eq hinj hi hl, ← hm] using h1, h2, h3, by simp [h4, hexp]⟩
      · obtain ⟨m', h1, h2, h3, h4⟩ := ih m hi (pre ++ [lv]) suf (by simp [hm]) (by simp at hfuel; omega)
        exact ⟨m', by simpa [hexp] using h1, h2, h3, by simp [h4, hexp]⟩

theorem gc_refines (tm : V → Int) (now limit : Int) (m : Metric V) (hi : Inv m) :
    ∃ m', gc tm now limit m = .ok m' ∧ Inv m' ∧ abs m' = Spec.gc tm now limit (abs m) ∧
      m'.nkeys = m.nkeys := by
  obtain ⟨h1, h2, h3⟩ := limitPhase_refines hinj tm limit m hi
  obtain ⟨m', he, hi', hk', hl'⟩ := expLoop_filter hinj tm now _ _ h1 [] _ rfl (Nat.lt_succ_self _)
  refine ⟨m', he, hi', ?_, hk'.trans h3⟩
  unfold Spec.gc
  rw [← h2, abs_eq, abs_eq, hl', List.nil_append, List.filter_map]
  rfl
end

end MtailVerif.Gc
