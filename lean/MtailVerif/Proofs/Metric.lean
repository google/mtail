import MtailVerif.Model.MetricSpec
import MtailVerif.Proofs.Assoc
/-! C09: the slice + index representation refines the insertion-ordered map.  The model's keyed lists
    are `find?` / `eraseP` / `modP` (the `_eq` lemmas and what follows from them down to
    `expireDatum_of_arity` need no invariant: the VM's store, `Proofs/VMStore`, is made of metrics
    about which it keeps none); under the invariant every method of the metric is one of these on
    the slice, selected by label tuple. -/
namespace MtailVerif.Metric
variable {V : Type}

/-- the index entry of a label value -/
def K (lv : LV V) : Bytes × Nat := (Key.encode lv.labels, lv.id)
def toEntry (lv : LV V) : Entry V := ⟨lv.labels, lv.value, lv.expiry⟩

structure Inv (m : Metric V) : Prop where
  index_eq : m.index = m.lvs.map K
  ids_lt : ∀ lv ∈ m.lvs, lv.id < m.next
  ids_nodup : (m.lvs.map (·.id)).Nodup
  labels_nodup : (m.lvs.map (·.labels)).Nodup
  arity : ∀ lv ∈ m.lvs, lv.labels.length = m.nkeys

theorem abs_eq (m : Metric V) : abs m = m.lvs.map toEntry := rfl

theorem lookup_eq (k : Bytes) (idx : List (Bytes × Nat)) : lookup k idx = (idx.find? (·.1 = k)).map (·.2) := by
  fun_induction lookup k idx <;> simp [*]

theorem erase_eq (k : Bytes) (idx : List (Bytes × Nat)) : erase k idx = idx.eraseP (·.1 = k) := by
  fun_induction erase k idx <;> simp [*]

theorem insert_absent (k : Bytes) (v : Nat) (idx : List (Bytes × Nat)) (h : idx.find? (·.1 = k) = none) :
    Metric.insert k v idx = idx ++ [(k, v)] := by
  fun_induction Metric.insert k v idx
  case case1 => rfl
  case case2 => simp at h
  case case3 hk ih => rw [ih (by simpa [hk] using h)]; rfl

theorem byId_eq (id : Nat) (lvs : List (LV V)) : byId id lvs = lvs.find? (·.id = id) := by
  fun_induction byId id lvs <;> simp [*]

theorem spliceOut_eq (id : Nat) (lvs : List (LV V)) :
    spliceOut id lvs = if lvs.any (·.id = id) then some (lvs.eraseP (·.id = id)) else none := by
  fun_induction spliceOut id lvs
  case case1 => rfl
  case case2 hlv => simp [hlv]
  case case3 lv rest hlv ih => rw [ih]; by_cases h : rest.any (·.id = id) <;> simp [hlv, h]

theorem mapId_eq (id : Nat) (f : LV V → LV V) (lvs : List (LV V)) : mapId id f lvs = modP (·.id = id) f lvs := by
  fun_induction mapId id f lvs <;> simp [modP, *]

theorem byId_mem {id : Nat} {lvs : List (LV V)} {l : LV V} (h : byId id lvs = some l) : l ∈ lvs ∧ l.id = id :=
  find?_key (byId_eq id lvs ▸ h)

theorem byId_isSome {id : Nat} {lvs : List (LV V)} : (byId id lvs).isSome ↔ id ∈ lvs.map (·.id) := by
  rw [byId_eq, List.find?_isSome]
  simp only [List.mem_map, decide_eq_true_eq]

theorem forall_mem_mapId {P : LV V → Prop} {id : Nat} {f : LV V → LV V} (hf : ∀ l, P l → P (f l))
    {lvs : List (LV V)} (h : ∀ l ∈ lvs, P l) : ∀ x ∈ mapId id f lvs, P x :=
  mapId_eq id f lvs ▸ forall_mem_modP hf h

theorem mapId_ids (id : Nat) (f : LV V → LV V) (hf : ∀ l, (f l).id = l.id) (lvs : List (LV V)) :
    (mapId id f lvs).map (·.id) = lvs.map (·.id) :=
  mapId_eq id f lvs ▸ map_modP _ f (·.id) hf lvs

section
/-! What `GetDatum`, `RemoveDatum` and `ExpireDatum` do to a metric of which nothing is known: the
    arity is kept, every label value of the result is an old one or the new zero datum, the
    identities that survive are named, and a tuple of the right arity is not refused for its arity. -/
variable {m m' : Metric V} {l : List Bytes}

theorem find_mem {lv : LV V} (h : find m l = some lv) : lv ∈ m.lvs := by
  unfold find at h
  split at h
  · cases h
  · exact (byId_mem h).1

theorem getDatum_ok {z : V} {id : Nat} (h : getDatum m z l = .ok (m', id)) :
    m'.nkeys = m.nkeys ∧ (∀ lv ∈ m'.lvs, lv ∈ m.lvs ∨ lv.value = z) ∧
    id ∈ m'.lvs.map (·.id) ∧ ∀ i ∈ m.lvs.map (·.id), i ∈ m'.lvs.map (·.id) := by
  unfold getDatum at h
  split at h
  · cases h
  · next hlen =>
    cases hf : find m l with
    | some lv0 =>
      simp only [hf] at h
      cases h
      exact ⟨rfl, fun lv hlv => .inl hlv, List.mem_map_of_mem (find_mem hf), fun _ h => h⟩
    | none =>
      simp only [hf, append, hlen, if_false] at h
      injection h with h
      injection h with h1 h2
      subst h1 h2
      refine ⟨rfl, fun lv hlv => ?_, by simp, fun i hi => by simp [List.mem_map.mp hi]⟩
      exact (List.mem_append.mp hlv).imp_right fun hlv => by rw [List.mem_singleton.mp hlv]

theorem getDatum_of_arity {z : V} (h : l.length = m.nkeys) : ∃ r, getDatum m z l = .ok r := by
  unfold getDatum
  rw [if_neg (by simp [h])]
  cases find m l with
  | some lv => exact ⟨_, rfl⟩
  | none => simp [append, h]

theorem removeDatum_ok (h : removeDatum m l = .ok m') :
    m'.nkeys = m.nkeys ∧ (∀ lv ∈ m'.lvs, lv ∈ m.lvs) ∧
    ∀ i ∈ m.lvs.map (·.id), i ∈ m'.lvs.map (·.id) ∨ ∃ lv, find m l = some lv ∧ lv.id = i := by
  unfold removeDatum at h
  split at h
  · cases h
  · simp only at h
    cases hl : lookup (Key.encode l) m.index with
    | none =>
      simp only [hl] at h; cases h
      exact ⟨rfl, fun _ h => h, fun _ h => .inl h⟩
    | some id =>
      simp only [hl] at h
      cases hsp : spliceOut id m.lvs with
      | none =>
        simp only [hsp] at h; cases h
        exact ⟨rfl, fun _ h => h, fun _ h => .inl h⟩
      | some lvs' =>
        simp only [hsp] at h; cases h
        -- the splice removes one entry with identity `id` and no other
        obtain ⟨-, e⟩ := Option.ite_none_right_eq_some.mp ((spliceOut_eq id m.lvs).symm.trans hsp)
        cases e
        refine ⟨rfl, fun lv => List.mem_of_mem_eraseP, fun i hi => ?_⟩
        by_cases hne : i = id
        · subst hne
          obtain ⟨lv, hb⟩ := Option.isSome_iff_exists.mp (byId_isSome.mpr hi)
          exact .inr ⟨lv, by simp [find, hl, hb], (byId_mem hb).2⟩
        · obtain ⟨x, hx, rfl⟩ := List.mem_map.mp hi
          exact .inl (List.mem_map_of_mem ((List.mem_eraseP_of_neg (by simpa using hne)).mpr hx))

theorem removeDatum_of_arity (h : l.length = m.nkeys) : ∃ m', removeDatum m l = .ok m' := by
  unfold removeDatum
  rw [if_neg (by simp [h])]
  dsimp only
  split
  · exact ⟨_, rfl⟩
  · split <;> exact ⟨_, rfl⟩

theorem expireDatum_ok {e : Int} (h : expireDatum m e l = .ok m') :
    m'.nkeys = m.nkeys ∧ (∀ lv ∈ m'.lvs, ∃ lv0 ∈ m.lvs, lv.value = lv0.value) ∧
    m'.lvs.map (·.id) = m.lvs.map (·.id) := by
  unfold expireDatum at h
  split at h
  · cases h
  · cases hf : find m l with
    | none => simp only [hf] at h; cases h
    | some lv0 =>
      simp only [hf] at h
      cases h
      refine ⟨rfl, forall_mem_mapId ?_ fun lv hlv => ⟨lv, hlv, rfl⟩,
        mapId_ids lv0.id (fun lv => { lv with expiry := e }) (fun _ => rfl) m.lvs⟩
      exact fun _ h => h

/-- `ExpireDatum` alone has a second way to fail, on a tuple the metric does not hold -/
theorem expireDatum_of_arity {e : Int} (h : l.length = m.nkeys) : expireDatum m e l ≠ .error .arity := by
  unfold expireDatum
  rw [if_neg (by simp [h])]
  split <;> simp

end

theorem findS_eq (l : List Bytes) (s : Spec V) : findS l s = s.find? (·.labels = l) := by
  fun_induction findS l s <;> simp [*]

theorem eraseS_eq (l : List Bytes) (s : Spec V) : eraseS l s = s.eraseP (·.labels = l) := by
  fun_induction eraseS l s <;> simp [*]

theorem modS_eq (l : List Bytes) (f : Entry V → Entry V) (s : Spec V) : modS l f s = modP (·.labels = l) f s := by
  fun_induction modS l f s <;> simp [modP, *]

section
/-! Frame: a write addressed to tuple `a` leaves what `findS` returns for another tuple `b`. -/
variable {a b : List Bytes} (hab : a ≠ b) {s : Spec V}
include hab

theorem labels_ne_of_ne (e : Entry V) (he : decide (e.labels = a) = true) : decide (e.labels = b) = false :=
  decide_eq_false fun hb => hab ((of_decide_eq_true he).symm.trans hb)

theorem findS_modS_of_ne {f : Entry V → Entry V} (hf : ∀ e, (f e).labels = e.labels) :
    findS b (modS a f s) = findS b s := by
  rw [findS_eq, findS_eq, modS_eq, find?_modP (fun e => by rw [hf]) (labels_ne_of_ne hab)]

theorem findS_append_of_ne {v : V} {x : Int} : findS b (s ++ [⟨a, v, x⟩]) = findS b s := by
  rw [findS_eq, findS_eq, List.find?_append]; simp [hab]

theorem findS_eraseS_of_ne : findS b (eraseS a s) = findS b s := by
  rw [findS_eq, findS_eq, eraseS_eq, find?_eraseP (labels_ne_of_ne hab)]

end

theorem findS_abs (l : List Bytes) (m : Metric V) :
    findS l (abs m) = (m.lvs.find? (·.labels = l)).map toEntry := by
  rw [findS_eq, abs_eq, List.find?_map]; rfl

theorem eraseS_abs (l : List Bytes) (m : Metric V) :
    (m.lvs.eraseP (·.labels = l)).map toEntry = eraseS l (abs m) := by
  rw [eraseS_eq, abs_eq, List.eraseP_map]; rfl

theorem modS_abs (l : List Bytes) (g : Entry V → Entry V) {f : LV V → LV V}
    (hfg : ∀ lv, toEntry (f lv) = g (toEntry lv)) (m : Metric V) :
    (modP (·.labels = l) f m.lvs).map toEntry = modS l g (abs m) := by
  rw [modS_eq, abs_eq, modP_map _ f g toEntry hfg]; rfl

/-- the metric after `AppendLabelValue` of a tuple it does not hold -/
def push (m : Metric V) (l : List Bytes) (v : V) : Metric V :=
  { m with lvs := m.lvs ++ [⟨m.next, l, v, 0⟩], index := m.index ++ [(Key.encode l, m.next)], next := m.next + 1 }

theorem abs_push (m : Metric V) (l : List Bytes) (v : V) : abs (push m l v) = abs m ++ [⟨l, v, 0⟩] := by
  simp [push, abs_eq, toEntry]

section
variable (hinj : ∀ a b : List Bytes, Key.encode a = Key.encode b → a = b) {m : Metric V} (hi : Inv m)
include hi

/-- a write through the identity just allocated, which no older label value has -/
theorem updateDatum_push (l : List Bytes) (v : V) (f : V → V) : updateDatum (push m l v) m.next f = push m l (f v) := by
  have hid : ∀ x ∈ m.lvs, ¬ decide (x.id = m.next) = true := fun x hx => by simpa using Nat.ne_of_lt (hi.ids_lt x hx)
  simp [updateDatum, push, mapId_eq, modP_append_of_forall_not _ hid]

/-- identities and label tuples are both keys of the slice: the identity of the element found under `l`
    selects what `l` selects -/
theorem id_iff_labels {l : List Bytes} {lv : LV V} (h : m.lvs.find? (·.labels = l) = some lv) :
    ∀ x ∈ m.lvs, decide (x.id = lv.id) = decide (x.labels = l) := by
  intro x hx
  obtain ⟨hm, hl⟩ := find?_key h
  refine decide_eq_decide.mpr ⟨fun e => ?_, fun e => ?_⟩
  · rw [eq_of_nodup_map hi.ids_nodup hx hm e, hl]
  · rw [eq_of_nodup_map hi.labels_nodup hx hm (e.trans hl.symm)]

theorem mapId_found {l : List Bytes} {lv : LV V} (h : m.lvs.find? (·.labels = l) = some lv) (f : LV V → LV V) :
    mapId lv.id f m.lvs = modP (·.labels = l) f m.lvs :=
  (mapId_eq ..).trans (modP_congr (id_iff_labels hi h))

theorem inv_push {l : List Bytes} (v : V) (hl : l.length = m.nkeys) (h : m.lvs.find? (·.labels = l) = none) :
    Inv (push m l v) := by
  have hlt : ∀ x ∈ m.lvs ++ [⟨m.next, l, v, 0⟩], x.id < m.next + 1 ∧ x.labels.length = m.nkeys := by
    intro x hx
    rcases List.mem_append.mp hx with hx | hx
    · exact ⟨Nat.lt_succ_of_lt (hi.ids_lt x hx), hi.arity x hx⟩
    · cases List.mem_singleton.mp hx; exact ⟨Nat.lt_succ_self _, hl⟩
  exact ⟨by simp [push, hi.index_eq, K], fun x hx => (hlt x hx).1,
    nodup_map_concat hi.ids_nodup fun x hx => Nat.ne_of_lt (hi.ids_lt x hx),
    nodup_map_concat hi.labels_nodup fun x hx => by simpa using List.find?_eq_none.mp h x hx,
    fun x hx => (hlt x hx).2⟩

theorem inv_modP {p : LV V → Bool} {f : LV V → LV V} (hid : ∀ lv, (f lv).id = lv.id)
    (hlab : ∀ lv, (f lv).labels = lv.labels) : Inv ({ m with lvs := modP p f m.lvs } : Metric V) := by
  refine ⟨?_, forall_mem_modP (fun x => by rw [hid]; exact id) hi.ids_lt, ?_, ?_,
    forall_mem_modP (fun x => by rw [hlab]; exact id) hi.arity⟩
  · exact hi.index_eq.trans (map_modP p f K (fun lv => by simp [K, hid, hlab]) _).symm
  · exact (map_modP p f (·.id) hid _).symm ▸ hi.ids_nodup
  · exact (map_modP p f (·.labels) hlab _).symm ▸ hi.labels_nodup

/-- labels are unique, so erasing by the labels of an element takes out that element -/
theorem Inv.eraseP_at {pre suf : List (LV V)} {lv : LV V} (hm : m.lvs = pre ++ lv :: suf) :
    m.lvs.eraseP (·.labels = lv.labels) = pre ++ suf := by
  have := hi.labels_nodup
  rw [hm, List.map_append, List.nodup_append] at this
  have hpre : pre.any (·.labels = lv.labels) = false := List.any_eq_false.mpr fun x hx => by
    simpa using this.2.2 _ (List.mem_map_of_mem hx) _ (List.mem_map_of_mem (.head _))
  simp [hm, List.eraseP_append, hpre]

theorem inv_eraseP (p : LV V → Bool) :
    Inv ({ m with lvs := m.lvs.eraseP p, index := (m.lvs.eraseP p).map K } : Metric V) :=
  have hs := List.eraseP_sublist (p := p) (l := m.lvs)
  ⟨rfl, fun x hx => hi.ids_lt x (hs.subset hx), hi.ids_nodup.sublist (hs.map _),
    hi.labels_nodup.sublist (hs.map _), fun x hx => hi.arity x (hs.subset hx)⟩

include hinj
omit hi in
/-- the one use of the key's injectivity: an index entry has the key of `l` iff its label value has labels `l` -/
theorem key_iff_labels (l : List Bytes) (x : LV V) : decide ((K x).1 = Key.encode l) = decide (x.labels = l) :=
  decide_eq_decide.mpr ⟨hinj _ _, congrArg _⟩

theorem lookup_index (l : List Bytes) :
    lookup (Key.encode l) m.index = (m.lvs.find? (·.labels = l)).map (·.id) := by
  rw [lookup_eq, hi.index_eq, List.find?_map, Option.map_map]
  exact congrArg (Option.map _) (find?_congr fun x _ => key_iff_labels hinj l x)

theorem find_eq (l : List Bytes) : find m l = m.lvs.find? (·.labels = l) := by
  unfold find
  rw [lookup_index hinj hi]
  cases h : m.lvs.find? (·.labels = l) with
  | none => rfl
  | some lv => exact (byId_eq ..).trans ((find?_congr (id_iff_labels hi h)).trans h)

theorem getDatum_found (mk : V) {l : List Bytes} (hl : l.length = m.nkeys) {lv : LV V}
    (h : m.lvs.find? (·.labels = l) = some lv) : getDatum m mk l = .ok (m, lv.id) := by
  simp [getDatum, hl, find_eq hinj hi, h]

theorem getDatum_new (mk : V) {l : List Bytes} (hl : l.length = m.nkeys)
    (h : m.lvs.find? (·.labels = l) = none) : getDatum m mk l = .ok (push m l mk, m.next) := by
  have : m.index.find? (·.1 = Key.encode l) = none := by
    simpa [lookup_eq, h] using lookup_index hinj hi l
  simp [getDatum, hl, find_eq hinj hi, h, append, insert_absent _ _ _ this, push]

theorem getDatum_post {m1 : Metric V} (mk : V) {l : List Bytes} (hl : l.length = m.nkeys) {id : Nat}
    (h : getDatum m mk l = .ok (m1, id)) :
    Inv m1 ∧ m1.nkeys = m.nkeys ∧ ∃ lv, m1.lvs.find? (·.labels = l) = some lv ∧ lv.id = id := by
  cases hf : m.lvs.find? (·.labels = l) with
  | some lv =>
    rw [getDatum_found hinj hi mk hl hf] at h; cases h
    exact ⟨hi, rfl, lv, hf, rfl⟩
  | none =>
    rw [getDatum_new hinj hi mk hl hf] at h; cases h
    exact ⟨inv_push hi mk hl hf, rfl, ⟨m.next, l, mk, 0⟩, by simp [push, List.find?_append, hf], rfl⟩

theorem removeDatum_eq {l : List Bytes} (hl : l.length = m.nkeys) :
    removeDatum m l = .ok { m with lvs := m.lvs.eraseP (·.labels = l),
                                   index := (m.lvs.eraseP (·.labels = l)).map K } := by
  have hlk := lookup_index hinj hi l
  cases h : m.lvs.find? (·.labels = l) with
  | none =>
    have : m.lvs.eraseP (·.labels = l) = m.lvs := List.eraseP_of_forall_not (List.find?_eq_none.mp h)
    simp [removeDatum, hl, hlk, h, this, ← hi.index_eq]
  | some lv =>
    have hs : spliceOut lv.id m.lvs = some (m.lvs.eraseP (·.labels = l)) := by
      rw [spliceOut_eq, if_pos (List.any_eq_true.mpr ⟨lv, List.mem_of_find?_eq_some h, by simp⟩),
        eraseP_congr (id_iff_labels hi h)]
    have : erase (Key.encode l) m.index = (m.lvs.eraseP (·.labels = l)).map K := by
      rw [erase_eq, hi.index_eq, List.eraseP_map]
      exact congrArg _ (eraseP_congr fun x _ => key_iff_labels hinj l x)
    simp [removeDatum, hl, hlk, h, hs, this]

theorem expireDatum_found (x : Int) {l : List Bytes} (hl : l.length = m.nkeys) {lv : LV V}
    (h : m.lvs.find? (·.labels = l) = some lv) :
    expireDatum m x l = .ok { m with lvs := modP (·.labels = l) (fun lv => { lv with expiry := x }) m.lvs } := by
  simp [expireDatum, hl, find_eq hinj hi, h, mapId_found hi h]

theorem expireDatum_absent (x : Int) {l : List Bytes} (hl : l.length = m.nkeys)
    (h : m.lvs.find? (·.labels = l) = none) : expireDatum m x l = .error .noDatum := by
  simp [expireDatum, hl, find_eq hinj hi, h]
end

end MtailVerif.Metric
