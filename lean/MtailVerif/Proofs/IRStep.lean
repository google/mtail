import MtailVerif.Model.IR
import MtailVerif.Proofs.VMFrame
/-! The non-branching instructions neither read nor write the program counter and the matched
    flag, so the semantics may run them on normalised registers. -/
namespace MtailVerif.IR
open MtailVerif MtailVerif.VM

def withPcM (q : Nat) (m : Bool) : Res → Res
  | .next t st => .next { t with pc := q, matched := m } st
  | r => r

theorem withPcM_eq (q : Nat) (m : Bool) : withPcM q m = Res.mapT fun t => { t with pc := q, matched := m } := by
  funext r; cases r <;> rfl

/-- Outside the five excluded opcodes no clause of `stepCore` reads `pc` or `matched`, and each
    builds the thread it continues with as `{ t with … }`, so writing the two registers commutes
    with the step (`Res.mapT`, Proofs/VMFrame).  The loop is the descent explained at
    `VM.stepCore_time_frame` there: one alternative per construct a clause is made of, `rfl` at a
    result, `P.andThen_mapT`, `incBy_mapT`, `writeDatum_mapT` where the thread is handed on, `split`
    at a `match` or `if` inside a continuation (the same alternatives in the same order; the one
    for `jumpTo` is not needed, the jumps being excluded).  There both sides are one call, which
    `fun_cases` opens; here the two calls differ in the thread, so both are unfolded opcode by
    opcode (the excluded opcodes first: they would be unfolded and taken apart in vain). -/
theorem stepCore_indep (o : Oracle) (p : Prog) (inp : Input) (op : Opcode) (arg : Operand) (t : Thread)
    (st : MStore) (q : Nat) (m : Bool)
    (h1 : op ≠ .jnm) (h2 : op ≠ .jm) (h3 : op ≠ .jmp) (h4 : op ≠ .setmatched) (h5 : op ≠ .otherwise) :
    stepCore o p inp ⟨op, arg⟩ { t with pc := q, matched := m } st =
      withPcM q m (stepCore o p inp ⟨op, arg⟩ t st) := by
  rw [withPcM_eq]
  cases op
  case jnm | jm | jmp | setmatched | otherwise => contradiction
  all_goals dsimp only [stepCore]
  all_goals repeat' first
    | with_reducible exact rfl
    | with_reducible refine P.andThen_mapT fun _ _ => ?_
    | split
    | with_reducible refine incBy_mapT fun _ _ _ => rfl
    | with_reducible refine writeDatum_mapT fun _ _ _ _ => ?_

theorem stepStrptime_indep (o : Oracle) (t : Thread) (st : MStore) (memo : Memo) (q : Nat) (m : Bool) :
    stepStrptime o { t with pc := q, matched := m } st memo =
      (withPcM q m (stepStrptime o t st memo).1, (stepStrptime o t st memo).2) := by
  simp only [stepStrptime]
  -- neither register is read: at every leaf (two pops, memo hit or miss, parse) both sides agree
  repeat' split
  all_goals rfl

theorem straight_ops {i : Instr} (h : straight i = true) :
    i.op ≠ .jnm ∧ i.op ≠ .jm ∧ i.op ≠ .jmp ∧ i.op ≠ .setmatched ∧ i.op ≠ .otherwise := by
  simp only [straight, Bool.and_eq_true, bne_iff_ne, ne_eq] at h
  obtain ⟨⟨⟨⟨a, b⟩, c⟩, d⟩, e⟩ := h
  exact ⟨a, b, c, d, e⟩

theorem step_indep (o : Oracle) (p : Prog) (inp : Input) (i : Instr) (h : straight i = true) (t : Thread)
    (st : MStore) (memo : Memo) (q : Nat) (m : Bool) :
    step o p inp i { t with pc := q, matched := m } st memo =
      (withPcM (q + 1) m (step o p inp i t st memo).1, (step o p inp i t st memo).2) := by
  obtain ⟨op, arg⟩ := i
  obtain ⟨h1, h2, h3, h4, h5⟩ := straight_ops h
  unfold step
  -- `step` advances the pc first: both sides are the instruction on `{ t with pc := t.pc + 1 }`
  split
  · exact stepStrptime_indep o { t with pc := t.pc + 1 } st memo (q + 1) m
  · exact congrArg (·, memo) (stepCore_indep o p inp op arg { t with pc := t.pc + 1 } st (q + 1) m h1 h2 h3 h4 h5)

@[simp] theorem norm_pcm (t : Thread) (q : Nat) (m : Bool) : norm { t with pc := q, matched := m } = norm t := rfl
@[simp] theorem norm_norm (t : Thread) : norm (norm t) = norm t := rfl

end MtailVerif.IR
