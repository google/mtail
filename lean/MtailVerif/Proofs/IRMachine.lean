import MtailVerif.Model.IR
/-! Runs of the VM on generated code: `Steps`, `Halts`; what one step of each control instruction
    does; `SimS`, which says when a run from a thread does what a result of the reference semantics
    says; and the judgment `Runs frag q m c P r`, which is `SimS` for the thread that `c`, `q` and `m`
    determine, given that `frag` lies at `q`, with the rules by which IRExpr and IRStmt compose
    fragments. -/
namespace MtailVerif.IR
open MtailVerif MtailVerif.VM

def CodeAt (code : List Instr) (pc : Nat) (frag : List Instr) : Prop :=
  ∃ pre post, code = pre ++ frag ++ post ∧ pre.length = pc

theorem CodeAt.all (code : List Instr) : CodeAt code 0 code := ⟨[], [], by simp, rfl⟩

theorem CodeAt.left {code pc a b} (h : CodeAt code pc (a ++ b)) : CodeAt code pc a := by
  obtain ⟨pre, post, rfl, rfl⟩ := h
  exact ⟨pre, b ++ post, by simp, rfl⟩

theorem CodeAt.right {code pc a b} (h : CodeAt code pc (a ++ b)) : CodeAt code (pc + a.length) b := by
  obtain ⟨pre, post, rfl, rfl⟩ := h
  exact ⟨pre ++ a, post, by simp, by simp⟩

theorem CodeAt.head {code pc i B} (h : CodeAt code pc (i :: B)) : code[pc]? = some i := by
  obtain ⟨pre, post, rfl, rfl⟩ := h
  simp

/-- a configuration of the VM.  The semantics' `Cfg` has the same fields; its thread is normalised
    (`norm`), the pc and the matched register meaning nothing there. -/
structure VC where
  t : Thread
  st : MStore
  memo : Memo

section
variable (o : Oracle) (p : Prog) (inp : Input)

inductive Steps : VC → VC → Prop
  | refl (c : VC) : Steps c c
  | cons {c d : VC} {i : Instr} {t' : Thread} {st' : MStore} {memo' : Memo} :
      p.code[c.t.pc]? = some i → step o p inp i c.t c.st c.memo = (.next t' st', memo') →
      Steps ⟨t', st', memo'⟩ d → Steps c d

/-- the line ends (stop, checked error or fault) with this store and memo -/
inductive Halts : VC → Outcome → MStore → Memo → Prop
  | stop {c : VC} {i : Instr} {st' : MStore} {memo' : Memo} :
      p.code[c.t.pc]? = some i → step o p inp i c.t c.st c.memo = (.stop st', memo') → Halts c .stopped st' memo'
  | err {c : VC} {i : Instr} {e : RtErr} {st' : MStore} {memo' : Memo} :
      p.code[c.t.pc]? = some i → step o p inp i c.t c.st c.memo = (.err e st', memo') → Halts c (.err e) st' memo'
  | fault {c : VC} {i : Instr} {f : Fault} {st' : MStore} {memo' : Memo} :
      p.code[c.t.pc]? = some i → step o p inp i c.t c.st c.memo = (.fault f st', memo') → Halts c (.fault f) st' memo'
  | cons {c : VC} {i : Instr} {t' : Thread} {st' : MStore} {memo' : Memo} {out : Outcome} {st2 : MStore} {memo2 : Memo} :
      p.code[c.t.pc]? = some i → step o p inp i c.t c.st c.memo = (.next t' st', memo') →
      Halts ⟨t', st', memo'⟩ out st2 memo2 → Halts c out st2 memo2
end

variable {o : Oracle} {p : Prog} {inp : Input}

theorem Steps.trans {a b c : VC} (h1 : Steps o p inp a b) (h2 : Steps o p inp b c) : Steps o p inp a c := by
  induction h1 with
  | refl => exact h2
  | cons hf hs _ ih => exact .cons hf hs (ih h2)

theorem Steps.refl' {a b : VC} (h : a = b) : Steps o p inp a b := h ▸ .refl a

theorem Halts.prepend {a b : VC} {out st memo} (h1 : Steps o p inp a b) (h2 : Halts o p inp b out st memo) :
    Halts o p inp a out st memo := by
  induction h1 with
  | refl => exact h2
  | cons hf hs _ ih => exact .cons hf hs (ih h2)

def J (jm : Bool) (tgt : Nat) : Instr := if jm then iJm tgt else iJnm tgt

theorem stepCore_jcond (jm : Bool) (a : Operand) (t : Thread) (st : MStore) (v : Val) (rest : List Val)
    (h : t.stack = v :: rest) :
    stepCore o p inp ⟨if jm then .jm else .jnm, a⟩ t st =
      if taken jm v then jumpTo t st rest ⟨if jm then .jm else .jnm, a⟩ else .next { t with stack := rest } st := by
  -- the `if` must be gone before `stepCore` is unfolded, or its match on the opcode stays stuck
  cases jm <;> simp only [Bool.false_eq_true, if_false, if_true, stepCore, h] <;> cases v <;> rfl

theorem jumpTo_nat (t : Thread) (st : MStore) (stack : List Val) (op : Opcode) (n : Nat) :
    jumpTo t st stack ⟨op, .int n⟩ = .next { t with pc := n, stack := stack } st := by
  simp [jumpTo, argInt]

theorem step_jump (jm : Bool) (tgt : Nat) (tv : Thread) (st : MStore) (memo : Memo) (v : Val) (rest : List Val)
    (hstk : tv.stack = v :: rest) :
    step o p inp (J jm tgt) tv st memo =
      (.next { tv with pc := if taken jm v then tgt else tv.pc + 1, stack := rest } st, memo) := by
  have e : J jm tgt = ⟨if jm then .jm else .jnm, .int tgt⟩ := by cases jm <;> rfl
  have ne : (if jm then Opcode.jm else .jnm) ≠ .strptime := by cases jm <;> decide
  rw [e, step, if_neg ne, stepCore_jcond jm _ { tv with pc := tv.pc + 1 } _ v rest hstk, jumpTo_nat]
  cases taken jm v <;> rfl

theorem step_jump_empty (jm : Bool) (tgt : Nat) (tv : Thread) (st : MStore) (memo : Memo) (hstk : tv.stack = []) :
    step o p inp (J jm tgt) tv st memo = (.fault .stackUnderflow st, memo) := by
  cases jm <;> simp [J, step, iJm, iJnm, stepCore, hstk]

theorem step_jmp (tgt : Nat) (tv : Thread) (st : MStore) (memo : Memo) :
    step o p inp (iJmp tgt) tv st memo = (.next { tv with pc := tgt } st, memo) := by
  simp [step, iJmp, stepCore, jumpTo_nat]

theorem step_pushB (b : Bool) (tv : Thread) (st : MStore) (memo : Memo) :
    step o p inp (iPushB b) tv st memo = (.next { tv with pc := tv.pc + 1, stack := .bool b :: tv.stack } st, memo) :=
  rfl

theorem step_setm (b : Bool) (tv : Thread) (st : MStore) (memo : Memo) :
    step o p inp (iSetm b) tv st memo = (.next { tv with pc := tv.pc + 1, matched := b } st, memo) :=
  rfl

theorem step_otherwise (tv : Thread) (st : MStore) (memo : Memo) :
    step o p inp iOtherwise tv st memo =
      (.next { tv with pc := tv.pc + 1, stack := .bool (!tv.matched) :: tv.stack } st, memo) :=
  rfl

/-! ### code fragments

A thread `tv` with `norm tv = c.t` is determined by `c`, its pc and its matched register, so the
judgment `Runs` speaks of `c.at q m` and takes the position `q` and the register `m` as arguments:
nothing has to be rewritten along equations between program counters.  `CodeAt` and `norm` are its
hypotheses, so that the rules split the code and add up the lengths, once.  In the rules for
jumps the targets are variables with an equation (`L = q + 1 + A.length`): the generated code
writes them as other sums, and `omega` closes the difference where a rule is used. -/

/-- the VM, started on thread `tv` with the store and memo of `c`, does what the semantics' result
    `r` says: it ends the line as `r` does, or it reaches a thread `tv'` behind the `len`
    instructions with the registers, store and memo of `r`'s configuration and `P flag' tv'` -/
def SimS (o : Oracle) (p : Prog) (inp : Input) (tv : Thread) (c : Cfg) (len : Nat) (P : Bool → Thread → Prop) : SR → Prop
  | .ok c' flag' => ∃ tv', Steps o p inp ⟨tv, c.st, c.memo⟩ ⟨tv', c'.st, c'.memo⟩ ∧ norm tv' = c'.t ∧
      tv'.pc = tv.pc + len ∧ P flag' tv'
  | .halt out st memo => Halts o p inp ⟨tv, c.st, c.memo⟩ out st memo

theorem SimS.of_steps {tv tv1 : Thread} {c : Cfg} (c1 : Cfg) {len n : Nat} {P : Bool → Thread → Prop} {r : SR}
    (hs : Steps o p inp ⟨tv, c.st, c.memo⟩ ⟨tv1, c1.st, c1.memo⟩) (h : SimS o p inp tv1 c1 n P r)
    (hpc : tv1.pc + n = tv.pc + len) : SimS o p inp tv c len P r := by
  cases r with
  | halt out st memo => exact Halts.prepend hs h
  | ok c' fl =>
    obtain ⟨tv', hs2, hn, hpc2, hP⟩ := h
    exact ⟨tv', hs.trans hs2, hn, by omega, hP⟩

def Cfg.at (c : Cfg) (q : Nat) (m : Bool) : Thread := { c.t with pc := q, matched := m }

theorem Cfg.at_of_norm {tv : Thread} {c : Cfg} (h : norm tv = c.t) : c.at tv.pc tv.matched = tv := by
  unfold Cfg.at; rw [← h]; rfl

def Cfg.withStack (c : Cfg) (s : List Val) : Cfg := ⟨{ c.t with stack := s }, c.st, c.memo⟩

theorem Cfg.withStack_norm {c : Cfg} {s : List Val} (hn : norm c.t = c.t) : norm (c.withStack s).t = (c.withStack s).t :=
  congrArg (fun t : Thread => { t with stack := s }) hn

/-- `frag` lies at `q`; entered there with the registers of `c` and the matched register `m`, the
    VM does what `r` says; if `r` goes on with flag `f`, the VM stands behind `frag` with a matched
    register `m'` such that `P f m'` -/
def Runs (o : Oracle) (p : Prog) (inp : Input) (frag : List Instr) (q : Nat) (m : Bool) (c : Cfg)
    (P : Bool → Bool → Prop) (r : SR) : Prop :=
  CodeAt p.code q frag → norm c.t = c.t → SimS o p inp (c.at q m) c frag.length (fun f t' => P f t'.matched) r

/-- for expressions: the flag is not involved, the matched register stays -/
abbrev RunsE (o : Oracle) (p : Prog) (inp : Input) (frag : List Instr) (q : Nat) (m : Bool) (c : Cfg) (r : R) : Prop :=
  Runs o p inp frag q m c (fun _ m' => m' = m) (liftE false r)

section
variable {A B D frag : List Instr} {q L : Nat} {m flag : Bool} {c : Cfg} {P Q : Bool → Bool → Prop} {r : SR}

theorem Runs.sim {tv : Thread} (h : Runs o p inp frag q m c P r) (hq : tv.pc = q) (hm : tv.matched = m)
    (hc : CodeAt p.code q frag) (hn : norm tv = c.t) :
    SimS o p inp tv c frag.length (fun f t' => P f t'.matched) r := by
  subst hq hm
  have := h hc (by rw [← hn]; rfl)
  rwa [Cfg.at_of_norm hn] at this

theorem Runs.nil (h : P flag m) : Runs o p inp [] q m c P (.ok c flag) :=
  fun _ hn => ⟨_, .refl _, hn, rfl, h⟩

/-- one instruction that goes on at `L`, with the registers of `c'` and the matched register `m'`:
    behind itself (`A = []`) or, if it jumps, behind `A` -/
theorem Runs.goto {i : Instr} {c' : Cfg} {m' : Bool} (A B : List Instr) (hD : D = A ++ B) (eL : L = q + 1 + A.length)
    (hs : step o p inp i (c.at q m) c.st c.memo = (.next (c'.at L m') c'.st, c'.memo))
    (hn' : norm c.t = c.t → norm c'.t = c'.t) (h : Runs o p inp B L m' c' P r) :
    Runs o p inp (i :: D) q m c P r := by
  subst hD eL
  exact fun hc hn => SimS.of_steps c' (.cons hc.head hs (.refl _))
    (h (hc.right (a := [i])).right (hn' hn)) (by simp only [Cfg.at, List.length_cons, List.length_append]; omega)

theorem Runs.step {i : Instr} {c' : Cfg} {m' : Bool}
    (hs : step o p inp i (c.at q m) c.st c.memo = (.next (c'.at (q + 1) m') c'.st, c'.memo))
    (hn' : norm c.t = c.t → norm c'.t = c'.t) (h : Runs o p inp B (q + 1) m' c' P r) :
    Runs o p inp (i :: B) q m c P r :=
  .goto [] B rfl rfl hs hn' h

theorem Runs.setm (b : Bool) (h : Runs o p inp B (q + 1) b c P r) : Runs o p inp (iSetm b :: B) q m c P r :=
  .step (step_setm b _ _ _) id h

theorem Runs.push {b : Bool} (h : Runs o p inp B (q + 1) m (pushB b c) P r) : Runs o p inp (iPushB b :: B) q m c P r :=
  .step (step_pushB b _ _ _) Cfg.withStack_norm h

theorem Runs.jmp (eL : L = q + 1 + B.length) (h : P flag m) : Runs o p inp (iJmp L :: B) q m c P (.ok c flag) :=
  .goto B [] (List.append_nil B).symm eL (step_jmp L _ _ _) id (.nil h)

theorem Runs.seq {k : Cfg → Bool → SR} (h1 : Runs o p inp A q m c P r)
    (h2 : ∀ c' f' m', P f' m' → Runs o p inp B (q + A.length) m' c' Q (k c' f')) :
    Runs o p inp (A ++ B) q m c Q (r.andThen k) := by
  intro hc hn
  cases r with
  | halt out st memo => exact h1 hc.left hn
  | ok c' f' =>
    obtain ⟨tv', hs, hn', hpc, hP⟩ := h1 hc.left hn
    exact SimS.of_steps c' hs ((h2 c' f' _ hP).sim hpc rfl hc.right hn')
      (by rw [hpc, List.length_append]; omega)

/-- what `branch` and `condSkips` do: pop the tested value, or fault -/
def Cfg.test (c : Cfg) (jm : Bool) (k : Bool → Cfg → SR) : SR :=
  match c.t.stack with
  | [] => .halt (.fault .stackUnderflow) c.st c.memo
  | v :: rest => k (taken jm v) (c.withStack rest)

theorem condSkips_ok (c : Cfg) (k : Bool → Cfg → SR) : condSkips (.ok c) k = c.test false k := rfl

theorem liftE_branch (f jm : Bool) (c : Cfg) (k : Bool → Cfg → R) :
    liftE f (branch jm c k) = c.test jm fun tk c' => liftE f (k tk c') := by
  unfold branch Cfg.test; generalize c.t.stack = s; cases s <;> rfl

/-- a conditional jump in front of `D = A ++ B` that lands on `B` -/
theorem Runs.jcond {jm : Bool} (A B : List Instr) {k : Bool → Cfg → SR} (hD : D = A ++ B) (eL : L = q + 1 + A.length)
    (hgo : ∀ c', Runs o p inp D (q + 1) m c' P (k false c'))
    (hskip : ∀ c', Runs o p inp B L m c' P (k true c')) :
    Runs o p inp (J jm L :: D) q m c P (c.test jm k) := by
  intro hc hn
  unfold Cfg.test
  cases hs : c.t.stack with
  | nil => exact Halts.fault (c := ⟨_, c.st, c.memo⟩) hc.head (step_jump_empty jm _ _ _ _ hs)
  | cons v rest =>
    have one := step_jump (o := o) (p := p) (inp := inp) jm L (c.at q m) c.st c.memo v rest hs
    cases htk : taken jm v with
    | false =>
      simp only [htk, Bool.false_eq_true, ↓reduceIte] at one ⊢
      exact Runs.step (c' := c.withStack rest) one Cfg.withStack_norm (hgo _) hc hn
    | true =>
      simp only [htk, ↓reduceIte] at one ⊢
      exact Runs.goto (c' := c.withStack rest) A B hD eL one Cfg.withStack_norm (hskip _) hc hn

/-- `SimS` for expressions: there is no flag, and the matched register stays -/
def Sim (o : Oracle) (p : Prog) (inp : Input) (tv : Thread) (c : Cfg) (len : Nat) : R → Prop
  | .ok c' => ∃ tv', Steps o p inp ⟨tv, c.st, c.memo⟩ ⟨tv', c'.st, c'.memo⟩ ∧ norm tv' = c'.t ∧
      tv'.pc = tv.pc + len ∧ tv'.matched = tv.matched
  | .halt out st memo => Halts o p inp ⟨tv, c.st, c.memo⟩ out st memo

theorem RunsE.sim {tv : Thread} {r : R} (h : RunsE o p inp frag tv.pc tv.matched c r)
    (hc : CodeAt p.code tv.pc frag) (hn : norm tv = c.t) : Sim o p inp tv c frag.length r := by
  cases r <;> exact Runs.sim h rfl rfl hc hn
end

end MtailVerif.IR
