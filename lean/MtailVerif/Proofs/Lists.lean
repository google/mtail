/-! Facts about core's list functions that several models need and core does not state, and the
    induction that the models' runs with partial steps share. -/
namespace MtailVerif
variable {α β γ : Type}

theorem foldl_fixed {f : β → α → β} (g : β → γ) (h : ∀ b a, g (f b a) = g b) (l : List α) (b : β) :
    g (l.foldl f b) = g b :=
  List.foldlRecOn (motive := fun b' => g b' = g b) l f rfl fun b' hb a _ => (h b' a).trans hb

theorem getElem?_set_some {l : List α} {i j : Nat} {a x : α} (h : (l.set i a)[j]? = some x) :
    (j = i ∧ x = a) ∨ l[j]? = some x := by
  rw [List.getElem?_set] at h
  split at h
  · next e => split at h <;> cases h; exact .inl ⟨e.symm, rfl⟩
  · exact .inr h

theorem filter_eraseIdx {p : α → Bool} {l : List α} {i : Nat} {x : α} (h : l[i]? = some x) (hp : p x = false) :
    (l.eraseIdx i).filter p = l.filter p := by
  induction l generalizing i with
  | nil => simp
  | cons y ys ih =>
    cases i with
    | zero => cases h; simp [hp]
    | succ i => simp only [List.eraseIdx_cons_succ, List.filter_cons, ih h]

/-- a map that changes only elements outside `p`, and leaves them outside, does not show under the filter -/
theorem filter_map_outside {p : α → Bool} {f : α → α} {l : List α}
    (hf : ∀ y, f y = y ∨ (p y = false ∧ p (f y) = false)) : (l.map f).filter p = l.filter p := by
  induction l with
  | nil => rfl
  | cons y ys ih =>
    simp only [List.map_cons, List.filter_cons, ih]
    rcases hf y with h | ⟨h1, h2⟩
    · rw [h]
    · rw [h1, h2]; rfl

/-- The models whose steps can be disabled each define their own `run : σ → List α → Option σ` by the
    same two equations (C19's `runSched`, written with `if enabled`, has the same induction of its own);
    an invariant of the steps is an invariant of such a run.  (Runs that are a
    `List.foldl` of a total step need nothing: `List.foldlRecOn`, `List.foldl_rel`.) -/
theorem inv_of_run {σ α : Type} {step : σ → α → Option σ} {run : σ → List α → Option σ}
    (nil : ∀ s, run s [] = some s)
    (cons : ∀ s a as, run s (a :: as) = (step s a).bind fun s' => run s' as)
    {P : σ → Prop} (hstep : ∀ {s s' a}, P s → step s a = some s' → P s')
    {s s' : σ} (h0 : P s) {as : List α} (h : run s as = some s') : P s' := by
  induction as generalizing s with
  | nil => exact Option.some.inj ((nil s).symm.trans h) ▸ h0
  | cons a as ih =>
    rw [cons] at h
    obtain ⟨s1, h1, h2⟩ := Option.bind_eq_some_iff.mp h
    exact ih (hstep h0 h1) h2

end MtailVerif
