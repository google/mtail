import MtailVerif.Proofs.ScopeFires
/-! A regular expression literal that is too long or does not parse is rejected wherever it stands
    (decorator definitions included). -/
namespace MtailVerif.Scope
open MtailVerif MtailVerif.Ast

/-- the text of a pattern expression written with literals only -/
def litText : Node → Option Bytes
  | .patlit p _ => some p
  | .bin .plus l r _ =>
    match litText l, litText r with
    | some a, some b => some (a ++ b)
    | _, _ => none
  | _ => none

/-- a literal pattern that the checker must refuse: over the length limit, or not parseable -/
def badLit (cfg : Cfg) (e : Node) : Bool :=
  match litText e with
  | some t => !t.isEmpty && (decide (t.length > cfg.maxRegexLen) || (cfg.groups t).isNone)
  | none => false

theorem evalPattern_lit (f : UInt64 → Bytes) (s : St) (e : Node) : ∀ t, litText e = some t → evalPattern f s e = (t, []) := by
  fun_induction litText e with
  | case1 p pos => intro t h; cases h; rfl
  | case2 l r ty a b hr hl ihl ihr =>
    intro t h
    cases h
    rw [evalPattern, ihl a hl, ihr b hr]
    rfl
  | case3 | case4 => intro t h; cases h

theorem checkRegex_bad (cfg : Cfg) (s : St) (pat : Bytes) (p : Option Pos)
    (h : pat.length > cfg.maxRegexLen ∨ cfg.groups pat = none) : s.errors.length < (checkRegex cfg s pat p).errors.length := by
  by_cases hl : pat.length > cfg.maxRegexLen
  · rw [checkRegex_tooLong cfg s p hl]; exact lt_err s
  · rw [checkRegex_invalid cfg s p hl (h.resolve_left hl)]; exact lt_err s

theorem fires_evalCheck (cfg : Cfg) (e : Node) (p : Option Pos) (h : badLit cfg e = true) :
    FiresOn (fun _ => True) (evalCheck cfg e p) := by
  intro s _ _
  unfold badLit at h
  cases ht : litText e with
  | none => rw [ht] at h; cases h
  | some t =>
    rw [ht] at h
    simp only [Bool.and_eq_true, Bool.not_eq_true', Bool.or_eq_true, decide_eq_true_eq, Option.isNone_iff_eq_none] at h
    unfold evalCheck
    simp only [evalPattern_lit cfg.fmtFloat s e t ht, h.1, Bool.false_eq_true, if_false, List.append_nil]
    exact checkRegex_bad cfg _ t p h.2

mutual
/-- does the tree contain a pattern expression written with literals whose text is over the
    length limit or does not parse? -/
def hasBadRegex (cfg : Cfg) : Node → Bool
  | .decodecl _ block _ => hasBadRegex cfg block
  | .stmts cs => hasBadRegexList cfg cs
  | .exprs cs => hasBadRegexList cfg cs
  | .cond c t e => hasBadRegex cfg c || hasBadRegex cfg t || hasBadRegex cfg e
  | .builtin _ args _ _ => hasBadRegex cfg args
  | .bin _ l r _ => hasBadRegex cfg l || hasBadRegex cfg r
  | .un _ e _ _ => hasBadRegex cfg e
  | .idx lhs index _ => hasBadRegex cfg index || hasBadRegex cfg lhs
  | .patexpr e _ => badLit cfg e || hasBadRegex cfg e
  | .const (.id _ _ _) e _ => hasBadRegex cfg e
  | .deco _ block _ => hasBadRegex cfg block
  | .del n _ _ => hasBadRegex cfg n
  | .conv n _ => hasBadRegex cfg n
  | _ => false
def hasBadRegexList (cfg : Cfg) : Nodes → Bool
  | .nil => false
  | .cons n ns => hasBadRegex cfg n || hasBadRegexList cfg ns
end

theorem badRegex_fires_both (cfg : Cfg) : (∀ n, hasBadRegex cfg n = true → FiresOn (fun _ => True) (walk cfg n)) ∧
    ∀ ns, hasBadRegexList cfg ns = true → FiresOn (fun _ => True) (walkList cfg ns) := by
  have S := stable_true
  have K n := keeps_true (walk_visit cfg n)
  -- one case per clause of `hasBadRegex`, in the order written there, then those of `hasBadRegexList`
  apply hasBadRegex.mutual_induct
  case case1 => exact fun _ _ _ ih h => fires_decodecl S (fun _ => trivial) (fun _ => trivial) (ih h)
  case case2 => exact fun cs ih h => fires_stmts S (ih h)
  case case3 => exact fun cs ih h => fires_node S (ih h) .refl
  case case4 =>
    exact fun c t e ihc iht ihe h => fires_cond S (K c) (K t) ((of_or h).imp (fun h => (of_or h).imp ihc iht) ihe)
  case case5 => exact fun _ _ _ _ ih h => fires_builtin S (ih h)
  case case6 => exact fun _ l r _ ihl ihr h => fires_bin S (K l) ((of_or h).imp ihl ihr)
  case case7 => exact fun _ _ _ _ ih h => fires_node S (ih h) .refl
  case case8 => exact fun lhs index _ ihi ihl h => fires_idx S (K index) ((of_or h).imp ihi ihl)
  case case9 => exact fun e _ ih h => fires_patexpr S (K e) ((of_or h).symm.imp ih (fires_evalCheck cfg e _))
  case case10 => exact fun _ _ _ _ _ ih h => fires_const S (fun _ => trivial) (ih h)
  case case11 => exact fun _ _ _ ih h => fires_deco S (fun _ _ _ => trivial) (ih h)
  case case12 => exact fun _ _ _ ih h => fires_node S (ih h) .refl
  case case13 => exact fun _ _ ih h => fires_node S (ih h) .refl
  case case14 => intros; simp only [hasBadRegex, Bool.false_eq_true, *] at *   -- `| _ => false`
  case case15 => exact nofun
  case case16 => exact fun n ns ihn ihns h => fires_cons (K n) ((of_or h).imp ihn ihns)

/-- **an over-long or unparseable regular expression is rejected, wherever it stands** -/
theorem badRegex_fires (cfg : Cfg) (n : Node) (h : hasBadRegex cfg n = true) : FiresA (walk cfg n) :=
  ((badRegex_fires_both cfg).1 n h).firesA

theorem badRegexList_fires (cfg : Cfg) : ∀ (ns : Nodes), hasBadRegexList cfg ns = true → FiresA (walkList cfg ns) :=
  fun ns h => ((badRegex_fires_both cfg).2 ns h).firesA

end MtailVerif.Scope
