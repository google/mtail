import MtailVerif.Model.FileStream
import MtailVerif.Proofs.Reader
/-! Model and specification stay related (`Inv`) one observed step at a time.  After an observation
    either nothing is at the path and nothing is tailed, or the stream is parked at the end of the
    file the path names; from there `streamWake` meets only five situations at the next one.  It is
    computed once for each (`wake_same`, `wake_shrunk`, `wake_emptied`, `wake_rotated`,
    `wake_deleted`: the read of what the path names through `Reader.readAndSend_spec`, the empty read
    of a file that has nothing new through `readAvail_end`), and `step_inv` is one of these rewrites
    per operation. -/
namespace MtailVerif.FileStream
open MtailVerif MtailVerif.Reader

/-- both switches on, which is what `C16.cfg`, regenerated from the source, evaluates to -/
def goodCfg : Cfg := ⟨true, true⟩

/-- relation between the model state and the specification state after every observed step: both have
    delivered the same lines, and either the path names nothing and nothing is tailed, or the stream is
    parked at the end of the file the path names, holding the specification's partial line -/
inductive Inv : St → Spec → Prop
  | gone {others : List File} {next : Nat} {out : List Bytes} :
      Inv ⟨none, others, none, next, out⟩ ⟨false, false, [], out⟩
  | there {ino : Nat} {data : Bytes} {others : List File} {next : Nat} {part : Bytes} {out : List Bytes}
      (hn : nl ∉ part) (hlen : part.length ≤ data.length) (hlt : ino < next) :
      Inv ⟨some ⟨ino, data⟩, others, some ⟨ino, data.length, ⟨part, 0⟩⟩, next, out⟩ ⟨true, true, part, out⟩

theorem Inv.out {s : St} {sp : Spec} (hi : Inv s sp) : s.delivered = sp.out := by
  cases hi <;> rfl

theorem spec_nil (cur : Bytes) : spec cur [] = ([], cur) := rfl

/-- the specification's flush is the reader's `Finish` -/
theorem flush_eq (sp : Spec) : flush sp = { sp with out := sp.out ++ finish ⟨sp.partial_, 0⟩, partial_ := [] } := by
  obtain ⟨ex, tl, part, out⟩ := sp
  cases part <;> simp [flush, finish_rem]

theorem readAvail_spec (ino off : Nat) (rem : Bytes) (f : File) (hn : nl ∉ rem) (hle : off ≤ f.data.length) :
    readAvail ⟨ino, off, ⟨rem, 0⟩⟩ f =
      ((spec rem (f.data.drop off)).1, ⟨ino, f.data.length, ⟨(spec rem (f.data.drop off)).2, 0⟩⟩) := by
  unfold readAvail
  simp only [readAndSend_spec rem _ hn, List.length_drop]
  have : off + (f.data.length - off) = f.data.length := by omega
  rw [this]

/-- a stream at or past the end of its file reads nothing -/
theorem readAvail_end (st : Stream) (f : File) (h : f.data.length ≤ st.offset) : readAvail st f = ([], st) := by
  simp [readAvail, List.drop_eq_nil_of_le h, readAndSend_nil]

/-- the descriptor's file is still at the path and has not shrunk -/
theorem wake_same {cfg : Cfg} {fuel ino : Nat} {data : Bytes} {others : List File} {next : Nat} {out : List Bytes}
    {off : Nat} {rem : Bytes} (hn : nl ∉ rem) (hle : off ≤ data.length) :
    streamWake cfg (fuel + 1) ⟨some ⟨ino, data⟩, others, some ⟨ino, off, ⟨rem, 0⟩⟩, next, out⟩ =
      ⟨some ⟨ino, data⟩, others, some ⟨ino, data.length, ⟨(spec rem (data.drop off)).2, 0⟩⟩, next,
        out ++ (spec rem (data.drop off)).1⟩ := by
  simp [streamWake, fileOf, readAvail_spec ino off rem ⟨ino, data⟩ hn hle]

/-- same file, shrunk below the read offset (truncate, copy-truncate) -/
theorem wake_shrunk {cfg : Cfg} (hc : cfg.finishClears = true) {fuel ino : Nat} {data : Bytes} {others : List File}
    {next : Nat} {out : List Bytes} {off : Nat} {rem : Bytes} (hlt : data.length < off) :
    streamWake cfg (fuel + 2) ⟨some ⟨ino, data⟩, others, some ⟨ino, off, ⟨rem, 0⟩⟩, next, out⟩ =
      ⟨some ⟨ino, data⟩, others, some ⟨ino, data.length, ⟨(spec [] data).2, 0⟩⟩, next,
        out ++ finish ⟨rem, 0⟩ ++ (spec [] data).1⟩ := by
  rw [streamWake]
  simp only [fileOf, readAvail_end ⟨ino, off, _⟩ ⟨ino, data⟩ (Nat.le_of_lt hlt), List.append_nil, ne_eq,
    not_true_eq_false, if_false, hlt, if_true, finishLR, hc]
  exact wake_same (by simp) (Nat.zero_le _)

/-- the file has been cut to nothing (truncate, copy-truncate): the fragment is flushed and the
    stream parks at offset 0; if nothing had been read yet (`off = 0`) there is no fragment and the
    shrink test does not fire, with the same result -/
theorem wake_emptied {cfg : Cfg} (hc : cfg.finishClears = true) {fuel ino : Nat} {others : List File} {next : Nat}
    {out : List Bytes} {off : Nat} {rem : Bytes} (hlen : rem.length ≤ off) :
    streamWake cfg (fuel + 2) ⟨some ⟨ino, []⟩, others, some ⟨ino, off, ⟨rem, 0⟩⟩, next, out⟩ =
      ⟨some ⟨ino, []⟩, others, some ⟨ino, 0, ⟨[], 0⟩⟩, next, out ++ finish ⟨rem, 0⟩⟩ := by
  cases off with
  | zero =>
    obtain rfl : rem = [] := List.eq_nil_of_length_eq_zero (Nat.le_zero.mp hlen)
    rw [wake_same List.not_mem_nil (Nat.zero_le _)]
    simp [spec, finish_rem]
  | succ off =>
    rw [wake_shrunk hc (Nat.succ_pos off)]
    simp [spec]

/-- another file is at the path (rotation); the old file is still open and has nothing new -/
theorem wake_rotated {cfg : Cfg} (hc : cfg.finishOnRotate = true) {fuel ino : Nat} {data : Bytes} {old : File}
    {others : List File} {next : Nat} {out : List Bytes} {rem : Bytes} (hne : ino ≠ old.inode)
    (hold : others.find? (·.inode = old.inode) = some old) :
    streamWake cfg (fuel + 2) ⟨some ⟨ino, data⟩, others, some ⟨old.inode, old.data.length, ⟨rem, 0⟩⟩, next, out⟩ =
      ⟨some ⟨ino, data⟩, others, some ⟨ino, data.length, ⟨(spec [] data).2, 0⟩⟩, next,
        out ++ finish ⟨rem, 0⟩ ++ (spec [] data).1⟩ := by
  rw [streamWake]
  simp only [fileOf, hne, if_false, hold, readAvail_end ⟨_, _, _⟩ old (Nat.le_refl _), List.append_nil, ne_eq,
    not_false_eq_true, if_true, hc]
  exact wake_same (by simp) (Nat.zero_le _)

/-- the path no longer exists; the old file is still open and has nothing new -/
theorem wake_deleted {cfg : Cfg} {fuel : Nat} {old : File} {others : List File} {next : Nat} {out : List Bytes}
    {rem : Bytes} (hold : others.find? (·.inode = old.inode) = some old) :
    streamWake cfg (fuel + 1) ⟨none, others, some ⟨old.inode, old.data.length, ⟨rem, 0⟩⟩, next, out⟩ =
      ⟨none, others, none, next, out ++ finish ⟨rem, 0⟩⟩ := by
  rw [streamWake]
  simp only [fileOf, hold, readAvail_end ⟨_, _, _⟩ old (Nat.le_refl _), List.append_nil]

theorem wake_nostream (cfg : Cfg) (fuel : Nat) (s : St) (hs : s.stream = none) : streamWake cfg fuel s = s := by
  cases fuel with
  | zero => rfl
  | succ n => simp [streamWake, hs]

theorem step_inv (cfg : Cfg) (hc1 : cfg.finishOnRotate = true) (hc2 : cfg.finishClears = true)
    (s : St) (sp : Spec) (hi : Inv s sp) (op : Op) : Inv (step cfg s op) (Spec.step sp op) := by
  cases hi with
  | gone =>
    cases op with
    | create => exact .there List.not_mem_nil (Nat.le_refl _) (Nat.lt_succ_self _)
    -- without a file only `create` does anything
    | _ => exact .gone
  | @there ino data others next part out hn hlen hlt =>
    -- steps that leave the file as it is: the stream reads nothing new
    have idle : Inv (patternPoll (streamWake cfg 4 ⟨some ⟨ino, data⟩, others,
        some ⟨ino, data.length, ⟨part, 0⟩⟩, next, out⟩)) ⟨true, true, part, out⟩ := by
      rw [wake_same hn (Nat.le_refl _), List.drop_length, spec_nil, List.append_nil]
      exact .there hn hlen hlt
    -- for the path and for the specification copy-truncate is the same step as truncate
    have trunc : Inv (patternPoll (streamWake cfg 4 ⟨some ⟨ino, []⟩, others,
        some ⟨ino, data.length, ⟨part, 0⟩⟩, next, out⟩)) (flush ⟨true, true, part, out⟩) := by
      rw [wake_emptied hc2 hlen, flush_eq]
      exact .there List.not_mem_nil (Nat.le_refl _) hlt
    cases op with
    | poll => exact idle
    | create => exact idle
    | truncate => exact trunc
    | copyTruncate => exact trunc
    | append b =>
      simp only [step, mutate, Spec.step, and_self, if_true]
      rw [wake_same hn (by simp : data.length ≤ (data ++ b).length), List.drop_left]
      refine .there (spec_rem_nonl part b hn) ?_ hlt
      have := spec_len part b
      simp only [List.length_append]; omega
    | rotate =>
      simp only [step, mutate, Spec.step, if_true, flush_eq]
      rw [wake_rotated (old := ⟨ino, data⟩) hc1 (Nat.ne_of_gt hlt) (by simp), spec_nil, List.append_nil]
      exact .there List.not_mem_nil (Nat.le_refl _) (Nat.lt_succ_self _)
    | delete =>
      simp only [step, mutate, Spec.step, if_true, flush_eq]
      rw [wake_deleted (old := ⟨ino, data⟩) (by simp)]
      exact .gone

theorem inv_start : Inv start {} :=
  .there List.not_mem_nil (Nat.le_refl _) Nat.zero_lt_one

theorem run_inv (cfg : Cfg) (hc1 : cfg.finishOnRotate = true) (hc2 : cfg.finishClears = true)
    (ops : List Op) (s : St) (sp : Spec) (hi : Inv s sp) : Inv (run cfg s ops) (ops.foldl Spec.step sp) :=
  List.foldl_rel hi fun op _ s sp hi => step_inv cfg hc1 hc2 s sp hi op

theorem stop_delivered (s : St) (sp : Spec) (hi : Inv s sp) : (stop s).delivered = (Spec.stop sp).out := by
  cases hi with
  | gone => rfl
  | @there ino data others next part out hn =>
    simp only [stop, fileOf, if_true, readAvail_spec ino data.length part ⟨ino, data⟩ hn (Nat.le_refl _),
      List.drop_length, spec_nil, List.append_nil, Spec.stop, flush_eq]

end MtailVerif.FileStream
