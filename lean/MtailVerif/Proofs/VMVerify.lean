import MtailVerif.Model.VMVerify
import MtailVerif.Proofs.VMStore
/-! What the bytecode verifier's abstract values and stacks say of concrete ones (`vOK`, `sOK`), and
    that the VM's typed pops respect it (`PopSound`; the three abstract pops are one table,
    `apopOf`, so one lemma serves them): the ground under `VMSound` (one instruction) and `VMRun`
    (whole lines). -/
namespace MtailVerif.VM.Verify
open MtailVerif MtailVerif.VM

theorem TyOK.ty_eq {p : Prog} {m k : Nat} {d : Datum} (h : TyOK p m d) (hk : mtyp p m = some k) : d.val.ty = k := by
  obtain ⟨mi, h1, h2⟩ := h
  simp [mtyp, h1] at hk
  rw [h2, hk]

/-- a concrete value is described by an abstract one -/
def vOK (p : Prog) (st : MStore) (dead : List (Nat × Metric.LV Datum)) : AV → Val → Prop
  | .top, _ => True
  | .bool, .bool _ => True
  | .i64, .i64 _ => True
  | .int, .int _ => True
  | .intc n, .int n' => n' = n
  | .f64, .f64 _ => True
  | .str, .str _ => True
  | .dur, .dur _ => True
  | .datum m, .datum m' lv => m' = m ∧ (getD st dead m lv).isSome
  | .metric m, .metric m' => m' = m ∧ m < p.metrics.length
  | _, _ => False

/-- the abstract stack describes the top of the concrete stack -/
def sOK (p : Prog) (st : MStore) (dead : List (Nat × Metric.LV Datum)) : AStack → List Val → Prop
  | [], _ => True
  | a :: as, v :: vs => vOK p st dead a v ∧ sOK p st dead as vs
  | _ :: _, [] => False

variable {p : Prog} {st st' : MStore} {dead dead' : List (Nat × Metric.LV Datum)}

theorem vOK_ext (he : Ext st dead st' dead') {a : AV} {v : Val} (h : vOK p st dead a v) :
    vOK p st' dead' a v := by
  -- only a datum pointer looks at the store
  cases a <;> cases v <;> first | exact h | exact ⟨h.1, he _ _ h.2⟩

theorem sOK_ext (he : Ext st dead st' dead') {as : AStack} {vs : List Val} (h : sOK p st dead as vs) :
    sOK p st' dead' as vs := by
  induction as generalizing vs with
  | nil => trivial
  | cons a as ih =>
    cases vs with
    | nil => exact h
    | cons v vs => exact ⟨vOK_ext he h.1, ih h.2⟩

/-- forgetting entries is sound -/
theorem sOK_le {w s : AStack} (hle : le w s = true) {vs : List Val} (h : sOK p st dead s vs) :
    sOK p st dead w vs := by
  induction w generalizing s vs with
  | nil => trivial
  | cons a w ih =>
    cases s with
    | nil => simp [le] at hle
    | cons b s =>
      cases vs with
      | nil => exact h
      | cons v vs =>
        simp only [le, Bool.and_eq_true, Bool.or_eq_true, beq_iff_eq] at hle
        refine ⟨?_, ih hle.2 h.2⟩
        rcases hle.1 with rfl | rfl
        · cases v <;> trivial
        · exact h.1

theorem sOK_cons {a : AV} {s : AStack} {vs : List Val} (h : sOK p st dead (a :: s) vs) :
    ∃ v rest, vs = v :: rest ∧ vOK p st dead a v ∧ sOK p st dead s rest := by
  cases vs with
  | nil => exact h.elim
  | cons v rest => exact ⟨v, rest, rfl, h⟩

theorem sOK_bool {s : AStack} {vs : List Val} (h : sOK p st dead (.bool :: s) vs) :
    ∃ b rest, vs = .bool b :: rest ∧ sOK p st dead s rest := by
  obtain ⟨v, rest, rfl, hv, hr⟩ := sOK_cons h
  cases v <;> first | exact hv.elim | exact ⟨_, rest, rfl, hr⟩

theorem sOK_dur {s : AStack} {vs : List Val} (h : sOK p st dead (.dur :: s) vs) :
    ∃ d rest, vs = .dur d :: rest ∧ sOK p st dead s rest := by
  obtain ⟨v, rest, rfl, hv, hr⟩ := sOK_cons h
  cases v <;> first | exact hv.elim | exact ⟨_, rest, rfl, hr⟩

theorem sOK_intc {n : Int} {s : AStack} {vs : List Val} (h : sOK p st dead (.intc n :: s) vs) :
    ∃ rest, vs = .int n :: rest ∧ sOK p st dead s rest := by
  obtain ⟨v, rest, rfl, hv, hr⟩ := sOK_cons h
  cases v <;> first | exact hv.elim | exact ⟨rest, hv ▸ rfl, hr⟩

theorem sOK_datum (hs : StoreOK p st dead) {m : Nat} {s : AStack} {vs : List Val}
    (h : sOK p st dead (.datum m :: s) vs) :
    ∃ lv rest d, vs = .datum m lv :: rest ∧ getD st dead m lv = some d ∧ TyOK p m d ∧ sOK p st dead s rest := by
  obtain ⟨v, rest, rfl, hv, hr⟩ := sOK_cons h
  cases v <;> try exact False.elim hv
  obtain ⟨rfl, hsome⟩ := hv
  obtain ⟨d, hd⟩ := Option.isSome_iff_exists.mp hsome
  exact ⟨_, rest, d, rfl, hd, getD_ty hs hd, hr⟩

theorem sOK_metric (hs : StoreOK p st dead) {m k : Nat} {s : AStack} {vs : List Val}
    (h : sOK p st dead (.metric m :: s) vs) (hk : mkeys p m = some k) :
    ∃ rest mi mm, vs = .metric m :: rest ∧ p.metrics[m]? = some mi ∧ st[m]? = some mm ∧ mm.nkeys = k ∧
      sOK p st dead s rest := by
  obtain ⟨v, rest, rfl, hv, hr⟩ := sOK_cons h
  cases v <;> try exact False.elim hv
  obtain ⟨rfl, hlt⟩ := hv
  have hmi := List.getElem?_eq_getElem hlt
  have hmm := List.getElem?_eq_getElem (hs.len ▸ hlt)
  refine ⟨rest, _, _, rfl, hmi, hmm, ?_, hr⟩
  rw [hs.keys _ _ _ hmm hmi]
  simpa [mkeys, hmi] using hk

/-- what the typed pops have in common: on a representation the abstract pop accepts, the concrete
    pop yields a value, or fails with the checked conversion error -/
def PopSound {α : Type} (p : Prog) (st : MStore) (dead : List (Nat × Metric.LV Datum))
    (apop : AStack → Option AStack) (pop : List Val → P α) : Prop :=
  ∀ ⦃s s' : AStack⦄ ⦃vs : List Val⦄, sOK p st dead s vs → apop s = some s' →
    (∃ a rest, pop vs = .ok a rest ∧ sOK p st dead s' rest) ∨ pop vs = .conv

/-- `apopInt`, `apopFloat` and `apopString` are one function: all accept the scalar representations,
    and a datum of a metric whose payload type `k` is the one the pop reads (0, 1, 2) -/
def apopOf (p : Prog) (k : Nat) : AStack → Option AStack
  | .datum m :: r => if mtyp p m = some k then some r else none
  | .i64 :: r | .int :: r | .intc _ :: r | .f64 :: r | .bool :: r | .str :: r => some r
  | _ => none

theorem apopInt_eq (p : Prog) : apopInt p = apopOf p 0 :=
  funext fun | [] => rfl | a :: _ => by cases a <;> rfl
theorem apopFloat_eq (p : Prog) : apopFloat p = apopOf p 1 :=
  funext fun | [] => rfl | a :: _ => by cases a <;> rfl
theorem apopString_eq (p : Prog) : apopString p = apopOf p 2 :=
  funext fun | [] => rfl | a :: _ => by cases a <;> rfl

/-- the operands a typed pop takes: a scalar, or a pointer to a datum of the payload type it reads -/
def Poppable (st : MStore) (dead : List (Nat × Metric.LV Datum)) (k : Nat) : Val → Prop
  | .i64 _ | .int _ | .f64 _ | .bool _ | .str _ => True
  | .datum m lv => ∃ d, getD st dead m lv = some d ∧ d.val.ty = k
  | _ => False

/-- a pop that takes every poppable operand is sound for `apopOf`: what is left to show of each
    pop is a case analysis of the operand alone -/
theorem PopSound.of_poppable {α : Type} (hs : StoreOK p st dead) (k : Nat) {pop : List Val → P α}
    (hpop : ∀ v rest, Poppable st dead k v → (∃ x, pop (v :: rest) = .ok x rest) ∨ pop (v :: rest) = .conv) :
    PopSound p st dead (apopOf p k) pop := by
  intro s s' vs h ha
  obtain ⟨v, rest, rfl, hv, hr⟩ : ∃ v rest, vs = v :: rest ∧ Poppable st dead k v ∧ sOK p st dead s' rest := by
    cases s with
    | nil => cases ha
    | cons a r =>
      -- `cases ha` closes a clause that rejects and settles `s' = r` in one that accepts a scalar
      cases a <;> try cases ha
      case datum m =>
        obtain ⟨hk, e⟩ := Option.ite_none_right_eq_some.mp ha
        cases e
        obtain ⟨lv, rest, d, rfl, hd, hT, hr⟩ := sOK_datum hs h
        exact ⟨_, rest, rfl, ⟨d, hd, hT.ty_eq hk⟩, hr⟩
      all_goals
        obtain ⟨v, rest, rfl, hv, hr⟩ := sOK_cons h
        cases v <;> first | exact hv.elim | exact ⟨_, rest, rfl, trivial, hr⟩
  exact (hpop v rest hv).imp (fun ⟨x, e⟩ => ⟨x, rest, e, hr⟩) id

theorem popInt_sound (o : Oracle) (hs : StoreOK p st dead) : PopSound p st dead (apopInt p) (popInt o st dead) := by
  refine apopInt_eq p ▸ .of_poppable hs 0 fun v rest hv => ?_
  cases v <;> try exact hv.elim
  case str x => simp only [popInt]; split <;> first | exact .inl ⟨_, rfl⟩ | exact .inr rfl
  case datum m lv =>
    obtain ⟨⟨val, tm⟩, hd, hty⟩ := hv
    cases val with
    | int x => exact .inl ⟨x, by simp only [popInt, hd]⟩
    | _ => cases hty
  all_goals exact .inl ⟨_, rfl⟩

theorem popFloat_sound (o : Oracle) (hs : StoreOK p st dead) : PopSound p st dead (apopFloat p) (popFloat o st dead) := by
  refine apopFloat_eq p ▸ .of_poppable hs 1 fun v rest hv => ?_
  cases v <;> try exact hv.elim
  case str x => simp only [popFloat]; split <;> first | exact .inl ⟨_, rfl⟩ | exact .inr rfl
  case datum m lv =>
    obtain ⟨⟨val, tm⟩, hd, hty⟩ := hv
    cases val with
    | float x => exact .inl ⟨x, by simp only [popFloat, hd]⟩
    | _ => cases hty
  all_goals exact .inl ⟨_, rfl⟩

theorem popString_sound (o : Oracle) (hs : StoreOK p st dead) :
    PopSound p st dead (apopString p) (popString o st dead) := by
  refine apopString_eq p ▸ .of_poppable hs 2 fun v rest hv => ?_
  cases v <;> try exact hv.elim
  case datum m lv =>
    obtain ⟨⟨val, tm⟩, hd, hty⟩ := hv
    cases val with
    | str x => exact .inl ⟨x, by simp only [popString, hd]⟩
    | _ => cases hty
  all_goals exact .inl ⟨_, rfl⟩

/-- `PopString` renders every scalar as text: it has no conversion error -/
theorem popString_ne_conv (o : Oracle) (vs : List Val) : popString o st dead vs ≠ .conv := by
  cases vs with
  | nil => nofun
  | cons v rest =>
    cases v <;> intro h <;> try cases h
    case datum m lv => simp only [popString] at h; split at h <;> cases h

theorem popString_total (o : Oracle) (hs : StoreOK p st dead) {s s' : AStack} {vs : List Val}
    (h : sOK p st dead s vs) (ha : apopString p s = some s') :
    ∃ x rest, popString o st dead vs = .ok x rest ∧ sOK p st dead s' rest :=
  (popString_sound o hs h ha).resolve_right (popString_ne_conv o vs)

theorem popKeys_total (o : Oracle) (hs : StoreOK p st dead) (n : Nat) {s s' : AStack} {vs : List Val}
    (acc : List Bytes) (h : sOK p st dead s vs) (ha : apopKeys p n s = some s') :
    ∃ ks rest, popKeys o st dead n vs acc = .ok ks rest ∧ sOK p st dead s' rest ∧ ks.length = n + acc.length := by
  induction n generalizing s vs acc with
  | zero =>
    cases ha
    exact ⟨acc, vs, rfl, h, by simp⟩
  | succ n ih =>
    obtain ⟨s1, h1, ha⟩ := Option.bind_eq_some_iff.mp ha
    obtain ⟨k, rest, hk, hr⟩ := popString_total o hs h h1
    obtain ⟨ks, rest', hks, hr', hlen⟩ := ih (k :: acc) hr ha
    refine ⟨ks, rest', ?_, hr', ?_⟩
    · simp only [popKeys, hk]; exact hks
    · simp only [List.length_cons] at hlen; omega

end MtailVerif.VM.Verify
