import MtailVerif.Model.Buckets
/-! `datum.Buckets`: an observation is core's `List.modify` at `target`, and `target` is core's
    `List.findIdx` clipped to the last index; counts, declared ranges. -/
namespace MtailVerif.Buckets
variable {S : Type}

theorem total_cons (p : Range × Nat) (bs : List (Range × Nat)) : total (p :: bs) = p.2 + total bs := by
  simp [total]

/-- index of the bucket `Observe` increments: the first whose bound is ≥ v, else the last -/
def target (v : FV) : List (Range × Nat) → Nat
  | [] => 0
  | [_] => 0
  | (r, _) :: rest => if le v r.max then 0 else target v rest + 1

theorem target_eq_findIdx (v : FV) (bs : List (Range × Nat)) :
    target v bs = min (bs.findIdx fun p => le v p.1.max) (bs.length - 1) := by
  -- `target`, and `bump` below: 1 no bucket; 2 the last bucket; an earlier one that 3 fits, 4 does not
  fun_induction target v bs with
  | case1 => rfl
  | case2 => exact (Nat.min_zero _).symm
  | case3 r c rest _ hle => simp [List.findIdx_cons, hle]
  | case4 r c rest hne hle ih =>
    have := List.length_pos_iff.mpr hne
    simp [List.findIdx_cons, hle, ih]; omega

theorem target_lt (v : FV) (bs : List (Range × Nat)) (h : bs ≠ []) : target v bs < bs.length := by
  have := List.length_pos_iff.mpr h
  rw [target_eq_findIdx]; omega

theorem bump_eq_modify (v : FV) (bs : List (Range × Nat)) :
    bump v bs = bs.modify (target v bs) (fun p => (p.1, p.2 + 1)) := by
  fun_induction bump v bs with
  | case1 => rfl
  | case2 => rfl
  | case3 r c rest _ hle => simp [target, hle]
  | case4 r c rest _ hle ih => simp [target, hle, ih]

theorem bump_ne_nil (v : FV) (bs : List (Range × Nat)) (h : bs ≠ []) : bump v bs ≠ [] := by
  intro e
  have := congrArg List.length (bump_eq_modify v bs)
  rw [e, List.length_modify] at this
  exact h (List.eq_nil_of_length_eq_zero this.symm)

theorem total_modify (bs : List (Range × Nat)) (i : Nat) (h : i < bs.length) :
    total (bs.modify i fun p => (p.1, p.2 + 1)) = total bs + 1 := by
  induction bs generalizing i with
  | nil => cases h
  | cons p bs ih =>
    cases i with
    | zero => simp [total_cons]; omega
    | succ i => simp [total_cons, ih i (Nat.lt_of_succ_lt_succ h)]; omega

theorem bump_total (v : FV) (bs : List (Range × Nat)) (h : bs ≠ []) : total (bump v bs) = total bs + 1 := by
  rw [bump_eq_modify, total_modify _ _ (target_lt v bs h)]

theorem le_nan (b : FV) : le .nan b = false := rfl

def observeAll (add : S → FV → S) (d : B S) : List FV → B S
  | [] => d
  | v :: vs => observeAll add (observe add d v) vs

theorem observeAll_inv (add : S → FV → S) (d : B S) (vs : List FV)
    (hne : d.buckets ≠ []) (h : total d.buckets = d.count) :
    total (observeAll add d vs).buckets = (observeAll add d vs).count ∧
    (observeAll add d vs).count = d.count + vs.length ∧
    (observeAll add d vs).sum = vs.foldl add d.sum := by
  induction vs generalizing d with
  | nil => simp [observeAll, h]
  | cons v vs ih =>
    have := ih (observe add d v) (bump_ne_nil v _ hne) (by simp [observe, bump_total v _ hne, h])
    simp only [observeAll, List.foldl_cons, List.length_cons]
    refine ⟨this.1, ?_, this.2.2⟩
    rw [this.2.1]; simp [observe]; omega

theorem make_nonempty (s0 : S) (ranges : List Range) : (make s0 ranges).buckets ≠ [] := by
  simp only [make]
  split
  · next h => intro e; rw [List.map_eq_nil_iff.mp e] at h; cases h
  · simp

theorem make_total (s0 : S) (ranges : List Range) : total (make s0 ranges).buckets = (make s0 ranges).count := by
  simp only [make, total]
  split <;> simp [Function.comp_def, List.map_const', List.sum_replicate_nat]

theorem rangesTail_maxes (mn : FV) (rest : List FV) (rs : List Range) (h : rangesTail mn rest = some rs) :
    rs.map (·.max) = rest ++ [pinf] := by
  induction rest generalizing mn rs with
  | nil => cases h; rfl
  | cons mx rest ih =>
    simp only [rangesTail] at h
    split at h
    · cases h
    · obtain ⟨rs', hrs', rfl⟩ := Option.map_eq_some_iff.mp h
      simp [ih mx rs' hrs']

/-- the upper bounds of a declared histogram: the declared boundaries, the first only if it is
    positive, then +Inf -/
theorem rangesOfDecl_maxes (decl : List FV) (rs : List Range) : rangesOfDecl decl = some rs →
    ∃ b0 rest, decl = b0 :: rest ∧ rs.map (·.max) = (if gt b0 zero then [b0] else []) ++ rest ++ [pinf] := by
  fun_cases rangesOfDecl decl with
  | case1 | case2 => exact nofun
  | case3 b0 rest =>
    intro h
    obtain ⟨rs', hrs', rfl⟩ := Option.map_eq_some_iff.mp h
    refine ⟨b0, rest, rfl, ?_⟩
    split <;> simp [rangesTail_maxes b0 rest rs' hrs']

theorem rangesTail_ne_nil (mn : FV) (rest : List FV) (rs : List Range) (h : rangesTail mn rest = some rs) :
    rs ≠ [] := by
  have := rangesTail_maxes mn rest rs h
  intro e; subst e; simp at this

end MtailVerif.Buckets
