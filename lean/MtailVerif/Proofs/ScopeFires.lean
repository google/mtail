import MtailVerif.Proofs.Scope
/-! "Rejected wherever it stands": an error that the visit of a sub-tree reports is reported by the
    visit of the whole tree, provided the visits on the way to the sub-tree keep the invariant its
    report depends on (or report an error themselves).  Stated once, for any invariant, per kind of
    node. -/
namespace MtailVerif.Scope
open MtailVerif MtailVerif.Ast

/-- below the depth limit and from a state that satisfies `J`, `f` reports an error -/
def FiresOn (J : St → Prop) (f : St → St) : Prop :=
  ∀ s, s.tooDeep = false → J s → s.errors.length < (f s).errors.length

/-- `FiresOn` without a `J`: below the depth limit `f` reports an error from any state -/
def FiresA (f : St → St) : Prop :=
  ∀ s, s.tooDeep = false → s.errors.length < (f s).errors.length

/-- `f` only adds errors; below the depth limit and from a state that satisfies `J` it ends below
    the limit in a state that satisfies `J'`, or reports an error -/
structure Leads (J J' : St → Prop) (f : St → St) : Prop where
  mono : ∀ s, Ext s (f s)
  leads : ∀ s, s.tooDeep = false → J s → ((f s).tooDeep = false ∧ J' (f s)) ∨ s.errors.length < (f s).errors.length

abbrev Keeps (J : St → Prop) (f : St → St) : Prop := Leads J J f

variable {cfg : Cfg} {J J' J'' : St → Prop} {f g k : St → St}

theorem FiresOn.firesA (h : FiresOn (fun _ => True) f) : FiresA f := fun s hs => h s hs trivial

/-- from a visit: to show `J' (f s)`, `hj` may use what a visit that reports nothing guarantees: the
    decorator stack has its height again, the scope stack has grown in the innermost scope at most -/
theorem Leads.of_visit (hv : ∀ s, Visit s (f s))
    (hj : ∀ s, (f s).decoScopes.length = s.decoScopes.length → Grows s.frames (f s).frames → J s → J' (f s)) : Leads J J' f :=
  ⟨fun s => (hv s).ext, fun s hs h => ((hv s).kept hs).imp (fun h' => ⟨h'.1, hj s h'.2.1 h'.2.2 h⟩) id⟩

theorem Leads.comp (hf : Leads J J' f) (hg : Leads J' J'' g) : Leads J J'' fun s => g (f s) := by
  refine ⟨fun s => (hf.mono s).trans (hg.mono _), fun s hs h => ?_⟩
  have l1 := ext_len (hf.mono s)
  have l2 := ext_len (hg.mono (f s))
  rcases hf.leads s hs h with ⟨h1, h2⟩ | h1
  · exact (hg.leads _ h1 h2).imp id (by omega)
  · exact .inr (by omega)

/-- An error reported by a step stays reported after the steps that follow.  (Uses of this and the next
    two say `(f := …)` or `(g := …)` where the arguments do not show how the composition splits:
    left to the unifier, the search doubles the cost of the check.) -/
theorem FiresOn.before (hf : FiresOn J f) (hg : ∀ s, Ext s (g s)) : FiresOn J fun s => g (f s) :=
  fun s hs h => Nat.lt_of_lt_of_le (hf s hs h) (ext_len (hg (f s)))

/-- steps that lead to `J'` (or report an error themselves), then a step that reports an error from `J'` -/
theorem FiresOn.after (hf : Leads J J' f) (hg : FiresOn J' g) (mg : ∀ s, Ext s (g s)) : FiresOn J fun s => g (f s) :=
  fun s hs h => (hf.leads s hs h).elim (fun ⟨h1, h2⟩ => Nat.lt_of_le_of_lt (ext_len (hf.mono s)) (hg _ h1 h2))
    fun h1 => Nat.lt_of_lt_of_le h1 (ext_len (mg (f s)))

/-- two steps in a row: the error comes from the first, or, the first keeping `J`, from the second -/
theorem FiresOn.seq (kf : Keeps J f) (mg : ∀ s, Ext s (g s)) (h : FiresOn J f ∨ FiresOn J g) : FiresOn J fun s => g (f s) :=
  h.elim (·.before mg) (.after kf · mg)

/-- the error comes from what `VisitAfter` does -/
theorem firesOn_leave (hk : FiresOn J k) : FiresOn J fun s => leave s k := by
  intro s hs h
  show _ < (leave s k).errors.length
  rw [leave_below k hs]
  exact hk s hs h

/-- an error reported by the children of a node stays reported after what `VisitAfter` does -/
theorem FiresOn.thenLeave (hf : FiresOn J f) (hk : ∀ s, Ext s (k s)) : FiresOn J fun s => leave (f s) k :=
  hf.before (ext_leave hk)

/-- What a state predicate has to allow for in order to be carried from a node down to its
    children: the depth counter, a fresh scope, and the flag that `subst` sets. -/
structure Stable (J : St → Prop) : Prop where
  depth : ∀ s d, J s → J { s with depth := d }
  push : ∀ s, J s → J (push s)
  substK : ∀ n b s, J s → J (substK n b s)

theorem stable_true : Stable fun _ => True := ⟨fun _ _ _ => trivial, fun _ _ => trivial, fun _ _ _ _ => trivial⟩

theorem keeps_true {f : St → St} (hv : ∀ s, Visit s (f s)) : Keeps (fun _ => True) f := .of_visit hv fun _ _ _ _ => trivial

theorem FiresOn.guarded {n : Node} (hd : ∀ s d, J s → J { s with depth := d }) (hk : FiresOn J k) :
    FiresOn J (guarded cfg n k) := by
  intro s hs h
  rcases guarded_cases cfg n k s with e | e <;> rw [e]
  · exact depthCut_lt cfg n hs
  · exact hk { s with depth := s.depth + 1 } hs (hd s _ h)

theorem Leads.guarded {n : Node} (hd : ∀ s d, J s → J { s with depth := d }) (hk : Leads J J' k) :
    Leads J J' (guarded cfg n k) := by
  refine ⟨ext_guarded cfg n hk.mono, fun s hs h => ?_⟩
  rcases guarded_cases cfg n k s with e | e <;> rw [e]
  · exact .inr (depthCut_lt cfg n hs)
  · exact hk.leads { s with depth := s.depth + 1 } hs (hd s _ h)

/-- a block (`.stmts`, `.cond`): the children `w` are visited in a scope of their own; the error may
    also come from the sweep at its end -/
theorem fires_block {n : Node} {w : St → St} (hd : ∀ s d, J s → J { s with depth := d }) (hp : ∀ s, J s → J' (push s))
    (h : FiresOn J' fun s => leave (w s) fun s => pop (sweep s)) :
    FiresOn J (guarded cfg n fun s => leave (w (push s)) fun s => pop (sweep s)) :=
  .guarded hd fun s hs hj => h (push s) hs (hp s hj)

variable (S : Stable J)
include S

theorem keeps_substK (n : String) (b : Bool) : Keeps J (substK n b) :=
  ⟨fun s => (quiet_substK n b s).ext, fun s hs h => .inl ⟨(quiet_substK n b s).deep.trans hs, S.substK n b s h⟩⟩

/-! Each node with children: if one child reports an error and those visited before it keep `J`, the
    node reports an error. -/

/-- a clause of `walk`: under the depth guard the children are visited (`f`), then `VisitAfter` does
    `k`; with `k := id` this is `.exprs`, `.un`, `.del`, `.conv` -/
theorem fires_node {n : Node} (h : FiresOn J f) (hk : ∀ s, Ext s (k s)) : FiresOn J (guarded cfg n fun s => leave (f s) k) :=
  .guarded S.depth (h.thenLeave hk)

theorem fires_stmts {cs : Nodes} (h : FiresOn J (walkList cfg cs)) : FiresOn J (walk cfg (.stmts cs)) :=
  fires_block S.depth S.push (h.thenLeave ext_popSweep)

theorem fires_cond {c t e : Node} (kc : Keeps J (walk cfg c)) (kt : Keeps J (walk cfg t))
    (h : (FiresOn J (walk cfg c) ∨ FiresOn J (walk cfg t)) ∨ FiresOn J (walk cfg e)) : FiresOn J (walk cfg (.cond c t e)) :=
  fires_block (w := fun s => walk cfg e (walk cfg t (walk cfg c s))) S.depth S.push
    (.thenLeave (.seq (kc.comp kt) (walk_ext cfg e) (h.imp (.seq kc (walk_ext cfg t)) id))
      ext_popSweep)

theorem fires_builtin {name : String} {args : Node} {p : Pos} {ty : Ty} (h : FiresOn J (walk cfg args)) :
    FiresOn J (walk cfg (.builtin name args p ty)) :=
  fires_node S (.after (keeps_substK S name true) h (walk_ext cfg args)) fun s => (quiet_substK name false s).ext

theorem fires_bin {op : Op} {l r : Node} {ty : Ty} (kl : Keeps J (walk cfg l))
    (h : FiresOn J (walk cfg l) ∨ FiresOn J (walk cfg r)) : FiresOn J (walk cfg (.bin op l r ty)) :=
  fires_node S (.seq kl (walk_ext cfg r) h) fun s => ((closed_visit cfg).matchK op r s).ext

theorem fires_idx {lhs index : Node} {ty : Ty} (ki : Keeps J (walk cfg index))
    (h : FiresOn J (walk cfg index) ∨ FiresOn J (walk cfg lhs)) : FiresOn J (walk cfg (.idx lhs index ty)) :=
  fires_node S (.seq ki (walk_ext cfg lhs) h) fun s => ((closed_visit cfg).idxK lhs s).ext

theorem fires_patexpr {e : Node} {pt : Bytes} (ke : Keeps J (walk cfg e))
    (h : FiresOn J (walk cfg e) ∨ FiresOn J (evalCheck cfg e (posOf e))) : FiresOn J (walk cfg (.patexpr e pt)) :=
  .guarded S.depth (.seq (g := (leave · _)) ke (ext_leave fun s => (quiet_evalCheck cfg e _ s).ext) (h.imp id firesOn_leave))

omit S in
/-- a declaration reports the name as taken, or goes on in a state that has the new symbol -/
theorem fires_declare {name : String} {k : Kind} {p : Option Pos} {c : Cls} {dp : Option Pos} {ok : Sym → St → St}
    (hj : ∀ {s}, J s → J (insertTop (s.newSym name k p).1 name (s.newSym name k p).2.id).1) (hok : ∀ sy, FiresOn J (ok sy)) :
    FiresOn J (declare name k p c dp ok) := by
  intro s hs h
  have q := (quiet_newSym s name k p 0).trans (quiet_insertTop _ name (s.newSym name k p).2.id)
  have l := ext_len q.ext
  rcases declare_cases name k p c dp ok s with e | e <;> rw [e]
  · exact Nat.lt_of_le_of_lt l (lt_err _)
  · exact Nat.lt_of_le_of_lt l (hok _ _ (q.deep.trans hs) (hj h))

omit S in
/-- a decorated block: the decorator is unknown or was never completed, or the block is visited in
    an instance of the scope its definition captured -/
theorem fires_decoK {name : String} (w : Option Pos) {wb : St → St}
    (hj : ∀ {s sy} fr, lookup s name .deco = some sy → J s →
      J (push (markUsed s sy.id) (flatten (markUsed s sy.id) fr []))) (hwb : FiresOn J wb) :
    FiresOn J (decoK name w wb) := by
  intro s hs h
  have q i := quiet_markUsed s i
  -- no such decorator; one for which no scope was captured; one with the captured scope `z`
  fun_cases decoK name w wb s with
  | case1 => exact lt_err s
  | case2 sy hl => exact Nat.lt_of_le_of_lt (ext_len (q sy.id).ext) (lt_err _)
  | case3 sy hl z =>
    exact Nat.lt_of_le_of_lt (ext_len (q sy.id).ext) (hwb.thenLeave (k := pop) (fun s => ext_of_errors_eq rfl)
      (push (markUsed s sy.id) (flatten (markUsed s sy.id) [z.2] [])) ((q sy.id).deep.trans hs) (hj _ hl h))

theorem fires_const {name : String} {p : Pos} {ty : Ty} {e : Node} {pt : Bytes}
    (hj : ∀ {s}, J s → J (insertTop (s.newSym name .pattern (some p)).1 name (s.newSym name .pattern (some p)).2.id).1)
    (h : FiresOn J (walk cfg e)) : FiresOn J (walk cfg (.const (.id name p ty) e pt)) :=
  .guarded S.depth (fires_declare hj fun sy => h.thenLeave fun s => (quiet_recordPattern cfg sy e s).ext)

theorem fires_decodecl {name : String} {block : Node} {p : Pos}
    (hj : ∀ {s}, J s → J (insertTop (s.newSym name .deco (some p)).1 name (s.newSym name .deco (some p)).2.id).1)
    (ho : ∀ {s}, J s → J (openDecoScope s)) (h : FiresOn J (walk cfg block)) : FiresOn J (walk cfg (.decodecl name block p)) :=
  .guarded S.depth (fires_declare hj fun sy =>
    .thenLeave (f := fun s => walk cfg block (openDecoScope s)) (fun s hs hj => h (openDecoScope s) hs (ho hj))
      (tr_closeDeco sy _))

theorem fires_deco {name : String} {block : Node} {p : Pos}
    (hj : ∀ {s sy} fr, lookup s name .deco = some sy → J s →
      J (push (markUsed s sy.id) (flatten (markUsed s sy.id) fr []))) (h : FiresOn J (walk cfg block)) :
    FiresOn J (walk cfg (.deco name block p)) :=
  .guarded S.depth (fires_decoK _ hj h)

omit S in
theorem fires_cons {n : Node} {ns : Nodes} (kn : Keeps J (walk cfg n))
    (h : FiresOn J (walk cfg n) ∨ FiresOn J (walkList cfg ns)) : FiresOn J (walkList cfg (.cons n ns)) :=
  .seq (f := walk cfg n) kn (walkList_ext cfg ns) h

end MtailVerif.Scope
