import MtailVerif.Model.ExprGrammar
/-! Parsing what the formatter writes for an expression gives the expression back. -/
namespace MtailVerif.Grammar
open MtailVerif MtailVerif.Ast MtailVerif.Unparse

/-- with enough fuel `p` returns `r`.  `both`: two results at one fuel; `step`, `step2`: the caller
    at fuel `g + 1` from what it calls at `g` -/
def Enough {α : Type} (p : Nat → Option α) (r : α) : Prop := ∃ f0, ∀ f, f0 ≤ f → p f = some r

abbrev Parses (l : Nat) (ts : List Tok) (r : Node × List Tok) : Prop := Enough (parseAt · l ts) r
abbrev Chains (l : Nat) (lhs : Node) (ts : List Tok) (r : Node × List Tok) : Prop := Enough (chain · l lhs ts) r
abbrev ParsesArgs (ts : List Tok) (r : Nodes × List Tok) : Prop := Enough (parseArgs · ts) r

theorem Enough.succ {α : Type} {p : Nat → Option α} {r : α} (f0 : Nat) (h : ∀ g, f0 ≤ g → p (g + 1) = some r) :
    Enough p r :=
  ⟨f0 + 1, fun
    | 0, hf => absurd hf (Nat.not_succ_le_zero f0)
    | g + 1, hf => h g (Nat.le_of_succ_le_succ hf)⟩

theorem Enough.both {α β γ : Type} {p : Nat → Option α} {q : Nat → Option β} {P : Nat → Option γ} {a : α} {b : β}
    {c : γ} (h1 : Enough p a) (h2 : Enough q b) (h : ∀ g, p g = some a → q g = some b → P g = some c) :
    Enough P c :=
  let ⟨f1, h1⟩ := h1; let ⟨f2, h2⟩ := h2
  ⟨max f1 f2, fun g hg =>
    h g (h1 g (Nat.le_trans (Nat.le_max_left f1 f2) hg)) (h2 g (Nat.le_trans (Nat.le_max_right f1 f2) hg))⟩

theorem Enough.step {α β : Type} {p : Nat → Option α} {P : Nat → Option β} {a : α} {b : β}
    (h1 : Enough p a) (h : ∀ g, p g = some a → P (g + 1) = some b) : Enough P b :=
  let ⟨f1, h1⟩ := h1
  .succ f1 fun g hg => h g (h1 g hg)

theorem Enough.step2 {α β γ : Type} {p : Nat → Option α} {q : Nat → Option β} {P : Nat → Option γ} {a : α} {b : β}
    {c : γ} (h1 : Enough p a) (h2 : Enough q b) (h : ∀ g, p g = some a → q g = some b → P (g + 1) = some c) :
    Enough P c :=
  let ⟨f0, h0⟩ := h1.both (P := fun g => P (g + 1)) h2 h
  .succ f0 h0

/-- the token after an expression printed at level `j` does not continue it -/
def stops (j : Nat) : List Tok → Bool
  | .lsq :: _ => false
  | .op o :: _ =>
    (match binLevel o with | some k => decide (k < j) | none => true) &&
      (decide (8 < j) || (o != .inc && o != .dec))
  | _ => true

theorem stops_op_iff {j : Nat} {o : Op} {ts : List Tok} : stops j (.op o :: ts) = true ↔
    (∀ k, binLevel o = some k → k < j) ∧ (8 < j ∨ o ≠ .inc ∧ o ≠ .dec) := by
  cases h : binLevel o <;> simp [stops, h]

theorem stops_mono {j k : Nat} {ts : List Tok} (h : stops j ts = true) (hjk : j ≤ k) : stops k ts = true := by
  cases ts with
  | nil => rfl
  | cons t ts =>
    cases t with
    | op o =>
      rw [stops_op_iff] at h ⊢
      exact ⟨fun k' hk' => Nat.lt_of_lt_of_le (h.1 k' hk') hjk, h.2.imp_left fun h8 => Nat.lt_of_lt_of_le h8 hjk⟩
    | _ => exact h

theorem parses_bin {l : Nat} {ts : List Tok} {lhs : Node} {rest : List Tok} {r : Node × List Tok}
    (hl : l ≤ 6) (h1 : Parses (l + 1) ts (lhs, rest)) (h2 : Chains l lhs rest r) : Parses l ts r :=
  h1.step2 h2 fun g e1 e2 => by unfold parseAt; rw [if_pos hl, e1]; exact e2

theorem chains_stop {l : Nat} {lhs : Node} {ts : List Tok} (h : stops l ts = true) : Chains l lhs ts (lhs, ts) :=
  .succ 0 fun g _ => by
    cases ts with
    | nil => rfl
    | cons t ts =>
      cases t with
      | op o => rw [chain, if_neg fun hb => Nat.lt_irrefl l ((stops_op_iff.mp h).1 l hb)]
      | _ => rfl

theorem chains_step {l : Nat} {lhs rhs : Node} {o : Op} {rest rest' : List Tok} {r : Node × List Tok}
    (ho : binLevel o = some l) (h1 : Parses (l + 1) rest (rhs, rest'))
    (h2 : Chains l (.bin o lhs rhs .unk) rest' r) : Chains l lhs (.op o :: rest) r :=
  h1.step2 h2 fun g e1 e2 => by rw [chain, if_pos ho, e1]; exact e2

theorem parses_not {rest : List Tok} {e : Node} {r : List Tok}
    (h : Parses 7 rest (e, r)) : Parses 7 (.op .not :: rest) (.un .not e dp .unk, r) :=
  h.step fun g e => by unfold parseAt; simp [e]

theorem parseAt_8_not (r : List Tok) : ∀ f, parseAt f 8 (.op .not :: r) = none
  | 0 | 1 | _ + 2 => rfl

/-- what parses at the postfix level does not begin with `~`, so the unary level passes it on -/
theorem parses_7_of_8 {ts : List Tok} {r : Node × List Tok} (h : Parses 8 ts r) : Parses 7 ts r :=
  h.step fun g e => by
    unfold parseAt
    simp only [show ¬ (7 ≤ 6) by omega, if_false, if_true]
    split
    · rw [parseAt_8_not] at e; cases e
    · exact e

theorem parses_8 {ts : List Tok} {e : Node} {rest : List Tok}
    (h : Parses 9 ts (e, rest)) : Parses 8 ts (postOps e rest) :=
  h.step fun g e => by unfold parseAt; simp [e]

theorem parses_id (n : String) {j : Nat} {r : List Tok} (h : stops j r = true) :
    Parses 9 (.id n :: r) (.idx (.id n dp .unk) (.exprs .nil) .unk, r) :=
  .succ 0 fun g _ => by
    cases r with
    | nil => rfl
    | cons t r' =>
      cases t with
      | lsq => cases h
      | _ => rfl

theorem parses_idx (n : String) {r r' : List Tok} {as : Nodes} (h : ParsesArgs r (as, .rsq :: r')) :
    Parses 9 (.id n :: .lsq :: r) (.idx (.id n dp .unk) (.exprs as) .unk, r') :=
  h.step fun g e => by unfold parseAt; simp [e]

theorem parseAt_rp (r : List Tok) : ∀ f l, parseAt f l (.rp :: r) = none
  | 0, _ => rfl
  | f + 1, l => by unfold parseAt; simp [parseAt_rp r f]

/-- the arguments parse, so they do not begin with `)` and this is not the call without arguments -/
theorem parses_call (n : String) {r r' : List Tok} {as : Nodes} (h : ParsesArgs r (as, .rp :: r')) :
    Parses 9 (.bi n :: .lp :: r) (.builtin n (.exprs as) dp .unk, r') :=
  h.step fun g e => by
    unfold parseAt
    cases r with
    | nil => simp [e]
    | cons t r'' =>
      cases t with
      | rp => cases g <;> simp [parseArgs, parseAt_rp] at e
      | _ => simp [e]

theorem parses_paren {r r' : List Tok} {e : Node} (h : Parses 1 r (e, .rp :: r')) :
    Parses 9 (.lp :: r) (e, r') :=
  h.step fun g e => by unfold parseAt; simp [e]

theorem parses_assign {op : Op} (hop : op = .assign ∨ op = .addAssign) {ts rest r' : List Tok} {l r : Node}
    (h1 : Parses 7 ts (l, .op op :: rest)) (h2 : Parses 1 rest (r, r')) :
    Enough (parseExprStmt · ts) (.bin op l r .unk, r') :=
  h1.both h2 fun g e1 e2 => by
    unfold parseExprStmt; rw [e1]
    rcases hop with rfl | rfl <;> simp [e2]

def notCommaHead : List Tok → Bool
  | .comma :: _ => false
  | _ => true

theorem args_one {ts rest : List Tok} {a : Node} (h : Parses 1 ts (a, rest))
    (hc : notCommaHead rest = true) : ParsesArgs ts (.cons a .nil, rest) :=
  h.step fun g e => by
    unfold parseArgs; rw [e]
    cases rest with
    | nil => rfl
    | cons t _ =>
      cases t with
      | comma => cases hc
      | _ => rfl

theorem args_more {ts rest r : List Tok} {a : Node} {as : Nodes}
    (h : Parses 1 ts (a, .comma :: rest)) (h2 : ParsesArgs rest (as, r)) : ParsesArgs ts (.cons a as, r) :=
  h.step2 h2 fun g e1 e2 => by unfold parseArgs; rw [e1]; simp [e2]

theorem postOps_of_stops {R : List Tok} (e : Node) (h : stops 8 R = true) : postOps e R = (e, R) := by
  unfold postOps
  split  -- on the first token: `++` and `--` do not stop level 8
  · cases h
  · cases h
  · rfl

theorem stops_notComma_of_closer {R : List Tok} : (∃ r, R = .rp :: r ∨ R = .rsq :: r) →
    stops 1 R = true ∧ notCommaHead R = true := by
  rintro ⟨r, rfl | rfl⟩ <;> exact ⟨rfl, rfl⟩

/-! ### the operators of the binary levels: for each of them the grammar's level is the
    formatter's strength, and the formatter brackets its operands by the general rule -/

theorem binLevel_prec {op : Op} {k : Nat} (h : binLevel op = some k) : opPrec op = k ∧ 1 ≤ k ∧ k ≤ 6 := by
  cases op <;> cases h <;> decide

theorem lhsNeedsParens_bin {op : Op} {k : Nat} (h : binLevel op = some k) (l : Node) :
    lhsNeedsParens op l = if isPatLit l || isConcat l then false else decide (precedence l < k) := by
  rw [← (binLevel_prec h).1]; unfold lhsNeedsParens; split <;> first | cases h | rfl

theorem rhsNeedsParens_bin {op : Op} {k : Nat} (h : binLevel op = some k) (r : Node) :
    rhsNeedsParens op r = if isPatLit r then false else decide (precedence r ≤ k) := by
  rw [← (binLevel_prec h).1]; unfold rhsNeedsParens; split <;> first | cases h | rfl

theorem isConcat_bin {op : Op} {l r : Node} {ty : Ty} (hr : isPatLit r = false) (hl : isConcat l = false) :
    isConcat (.bin op l r ty) = false := by
  unfold isConcat; split
  · next h => cases h; rw [hr, hl]; rfl
  · rfl

theorem stops_op {op : Op} {k : Nat} (h : binLevel op = some k) (ts : List Tok) :
    stops (k + 1) (.op op :: ts) = true :=
  stops_op_iff.mpr ⟨fun k' hk' => (Option.some.inj (h.symm.trans hk')) ▸ Nat.lt_succ_self k,
    .inr (by constructor <;> (rintro rfl; cases h))⟩

/-! ### levels

Each level `m ≤ 8` of the parser reads an expression of level `m + 1` and then runs its loop with
that expression on the left: the chain of a binary level, the postfix operators at level 8,
nothing at the unary level (nor at 9, the primaries).  `Loop m e rest r`: that loop, entered with
`e` before `rest`, ends in `r`. -/

def Loop (m : Nat) (e : Node) (rest : List Tok) (r : Node × List Tok) : Prop :=
  if m ≤ 6 then Chains m e rest r else if m = 8 then r = postOps e rest else r = (e, rest)

theorem loop_chains {m : Nat} {e : Node} {rest : List Tok} {r : Node × List Tok} (h6 : m ≤ 6) :
    Loop m e rest r ↔ Chains m e rest r :=
  Iff.of_eq (if_pos h6)

theorem parses_loop {m : Nat} {ts : List Tok} {e : Node} {rest : List Tok} {r : Node × List Tok}
    (hm : m ≤ 8) (h1 : Parses (m + 1) ts (e, rest)) (h2 : Loop m e rest r) : Parses m ts r := by
  by_cases h6 : m ≤ 6
  · exact parses_bin h6 h1 ((loop_chains h6).mp h2)
  · rw [Loop, if_neg h6] at h2
    by_cases h8 : m = 8
    · subst h8; cases h2; exact parses_8 h1
    · obtain rfl : m = 7 := by omega
      cases h2; exact parses_7_of_8 h1

theorem loop_stop {m : Nat} {e : Node} {rest : List Tok} (hs : stops m rest = true) : Loop m e rest (e, rest) := by
  unfold Loop
  split
  · exact chains_stop hs
  · split
    · next h8 => subst h8; exact (postOps_of_stops e hs).symm
    · rfl

/-- `ts` is `e` written so that it can stand on the left of the loop of level `m`: before any rest
    that does not continue an expression tighter than `m`, parsing at level `m` reads `e` off `ts`
    and goes on with the loop -/
def Open (m : Nat) (ts : List Tok) (e : Node) : Prop :=
  ∀ rest r, stops (m + 1) rest = true → Loop m e rest r → Parses m (ts ++ rest) r

theorem Open.full {m : Nat} {ts : List Tok} {e : Node} (h : Open m ts e) {rest : List Tok}
    (hs : stops m rest = true) : Parses m (ts ++ rest) (e, rest) :=
  h rest _ (stops_mono hs (Nat.le_succ m)) (loop_stop hs)

theorem Open.le {m k : Nat} {ts : List Tok} {e : Node} (hm : m ≤ k) (h9 : k ≤ 9) (h : Open k ts e) :
    Open m ts e := by
  induction hm with
  | refl => exact h
  | step _ ih => exact ih (by omega) fun rest _ hs hc => parses_loop (by omega) (h.full hs) hc

/-- `stops 10 rest`: `rest` does not begin with `[`, the one token `stops` lets continue a primary -/
theorem Open.prim {ts : List Tok} {e : Node} (h : ∀ rest, stops 10 rest = true → Parses 9 (ts ++ rest) (e, rest)) :
    Open 9 ts e :=
  fun rest _ hs hc => by cases hc; exact h rest hs

/-- a primary expression that the parser's last clause reads off by itself -/
theorem Open.token {ts : List Tok} {e : Node} (h : ∀ g rest, parseAt (g + 1) 9 (ts ++ rest) = some (e, rest)) :
    Open 9 ts e :=
  .prim fun rest _ => .succ 0 fun g _ => h g rest

theorem Open.paren {ts : List Tok} {e : Node} (h : Open 1 ts e) : Open 9 (.lp :: ts ++ [.rp]) e :=
  .prim fun rest _ => by simpa using parses_paren (h.full (rest := .rp :: rest) rfl)

theorem Open.not {ts : List Tok} {e : Node} (h : Open 7 ts e) : Open 7 (.op .not :: ts) (.un .not e dp .unk) :=
  fun rest _ hs hc => by cases hc; exact parses_not (h rest _ hs rfl)

theorem Open.postfix {o : Op} (ho : o = .inc ∨ o = .dec) {ts : List Tok} {e : Node} (h : Open 8 ts e) :
    Open 8 (ts ++ [.op o]) (.un o e dp .unk) := by
  intro rest r _ hc
  rw [List.append_assoc]
  refine h _ r (by rcases ho with rfl | rfl <;> rfl) ?_
  rcases ho with rfl | rfl <;> exact hc

theorem Open.bin {op : Op} {k : Nat} (hop : binLevel op = some k) {tl tr : List Tok} {l r : Node}
    (hl : Open k tl l) (hr : Open (k + 1) tr r) : Open k (tl ++ .op op :: tr) (.bin op l r .unk) := by
  intro rest res hs hc
  have hk6 := (binLevel_prec hop).2.2
  rw [List.append_assoc, List.cons_append]
  exact hl _ res (stops_op hop _) ((loop_chains hk6).mpr (chains_step hop (hr.full hs) ((loop_chains hk6).mp hc)))

mutual
/-- the trees the model's parser builds: the tokens carry no positions, so every position is `dp`
    (all zero), and every type is `.unk` -/
inductive WF : Node → Prop
  | int (i : Int) : WF (.int i dp)
  | float (b : UInt64) : WF (.float b dp)
  | str (t : Bytes) : WF (.str t dp)
  | cap (n : String) (nd : Bool) : WF (.cap n nd dp .unk)
  | var (n : String) {as : Nodes} : WFs as → WF (.idx (.id n dp .unk) (.exprs as) .unk)
  | call0 (n : String) : WF (.builtin n .nil dp .unk)
  | call (n : String) {a : Node} {as : Nodes} : WF a → WFs as → WF (.builtin n (.exprs (.cons a as)) dp .unk)
  | bin {op : Op} {l r : Node} : (binLevel op).isSome = true → WF l → WF r → WF (.bin op l r .unk)
  | not {e : Node} : WF e → WF (.un .not e dp .unk)
  | inc {e : Node} : WF e → WF (.un .inc e dp .unk)
  | dec {e : Node} : WF e → WF (.un .dec e dp .unk)
inductive WFs : Nodes → Prop
  | nil : WFs .nil
  | cons {a : Node} {as : Nodes} : WF a → WFs as → WFs (.cons a as)
end

/-- what the induction over the tree carries: the text of `e` can stand at every level up to the
    strength of `e`; the rest is what the bracket rules ask of an operand -/
structure Good (e : Node) : Prop where
  opn : ∀ m, m ≤ precedence e → Open m (toks e) e
  pos : 1 ≤ precedence e
  noPat : isPatLit e = false
  noConcat : isConcat e = false

theorem Good.of_open {e : Node} (k : Nat) (hp : precedence e = k) (h1 : 1 ≤ k) (h9 : k ≤ 9)
    (ho : Open k (toks e) e) (noPat : isPatLit e = false) (noConcat : isConcat e = false) : Good e :=
  ⟨fun _ hm => .le (hp ▸ hm) h9 ho, hp ▸ h1, noPat, noConcat⟩

theorem Good.full {e : Node} (g : Good e) {j : Nat} (hj : j ≤ precedence e) {rest : List Tok}
    (hs : stops j rest = true) : Parses j (toks e ++ rest) (e, rest) :=
  (g.opn j hj).full hs

theorem Good.prim {e : Node} (hp : precedence e = 9) (ho : Open 9 (toks e) e)
    (noPat : isPatLit e = false) (noConcat : isConcat e = false) : Good e :=
  .of_open 9 hp (by decide) (by decide) ho noPat noConcat

theorem operand_open {a : Node} (ga : Good a) (b : Bool) {m : Nat} (h9 : m ≤ 9)
    (hb : b = false → m ≤ precedence a) : Open m (parens b (toks a)) a := by
  cases b with
  | true => exact .le h9 (Nat.le_refl 9) (ga.opn 1 ga.pos).paren
  | false => exact ga.opn m (hb rfl)

/-- the rule of `~`, `++` and `--`: brackets exactly when the operand is weaker than `m` -/
theorem operand_at {a : Node} (ga : Good a) (m : Nat) (h9 : m ≤ 9) :
    Open m (parens (decide (precedence a < m)) (toks a)) a :=
  operand_open ga _ h9 fun h => Nat.le_of_not_lt (of_decide_eq_false h)

theorem bin_open {op : Op} {l r : Node} {k : Nat} (hop : binLevel op = some k) (gl : Good l) (gr : Good r) :
    Open k (toks (.bin op l r .unk)) (.bin op l r .unk) := by
  have hk6 := (binLevel_prec hop).2.2
  have hl : lhsNeedsParens op l = false → k ≤ precedence l := by
    rw [lhsNeedsParens_bin hop, gl.noPat, gl.noConcat]; simp
  have hr : rhsNeedsParens op r = false → k + 1 ≤ precedence r := by
    rw [rhsNeedsParens_bin hop, gr.noPat]; simp; omega
  exact .bin hop (operand_open gl _ (by omega) hl) (operand_open gr _ (by omega) hr)

/-- `unary_expr (= | +=) logical_expr`: the left side stands at the unary level before the operator,
    the right side at level 1 before `rest` -/
theorem assign_parses {op : Op} (hop : op = .assign ∨ op = .addAssign) {l r : Node} (gl : Good l) (gr : Good r)
    {rest : List Tok} (hs : stops 1 rest = true) :
    Enough (parseExprStmt · (toksAssign op l r ++ rest)) (.bin op l r .unk, rest) := by
  have hlp : lhsNeedsParens op l = decide (precedence l < precUnary) := by
    rcases hop with rfl | rfl <;> rfl
  have hR : stops 7 (.op op :: (parens (rhsNeedsParens op r) (toks r) ++ rest)) = true := by
    rcases hop with rfl | rfl <;> rfl
  have h1 := (operand_open gl (lhsNeedsParens op l) (m := 7) (by decide)
    fun h => Nat.le_of_not_lt (of_decide_eq_false (hlp ▸ h))).full hR
  have h2 := (operand_open gr (rhsNeedsParens op r) (m := 1) (by decide) fun _ => gr.pos).full hs
  simpa [toksAssign] using parses_assign hop h1 h2

/-- for a non-empty list only (`parseArgs` accepts no empty one), before the closing bracket -/
def GoodArgs (as : Nodes) : Prop :=
  as ≠ .nil → ∀ R, (∃ r, R = .rp :: r ∨ R = .rsq :: r) → ParsesArgs (toksArgs as ++ R) (as, R)

mutual
theorem good : ∀ {e : Node}, WF e → Good e
  | _, .int i => Good.prim rfl (.token fun _ _ => rfl) rfl rfl
  | _, .float b => Good.prim rfl (.token fun _ _ => rfl) rfl rfl
  | _, .str t => Good.prim rfl (.token fun _ _ => rfl) rfl rfl
  | _, .cap n nd => Good.prim rfl (.token fun _ _ => rfl) rfl rfl
  | _, .call0 n => Good.prim rfl (.token fun _ _ => rfl) rfl rfl
  | _, @WF.var n as hs =>
    have ih := goodArgs hs
    match as, ih with
    | .nil, _ => Good.prim rfl (.prim fun rest hs => parses_id n hs) rfl rfl
    | .cons a as', ih => Good.prim rfl
        (.prim fun rest _ => by simpa [toks] using parses_idx n (ih nofun _ ⟨rest, .inr rfl⟩)) rfl rfl
  | _, @WF.call n a as ha hs => Good.prim rfl
      (.prim fun rest _ => by
        simpa [toks] using parses_call n (goodArgs (.cons ha hs) nofun _ ⟨rest, .inl rfl⟩)) rfl rfl
  | _, @WF.bin op l r hop hl hr =>
    have gl := good hl
    have gr := good hr
    match hk : binLevel op, hop with
    | some k, _ =>
      have hp := binLevel_prec hk
      .of_open k hp.1 hp.2.1 (by omega) (bin_open hk gl gr) rfl (isConcat_bin gr.noPat gl.noConcat)
  | _, @WF.not a ha => .of_open 7 rfl (by decide) (by decide)
      (operand_at (good ha) 7 (by decide)).not rfl rfl
  | _, @WF.inc a ha => .of_open 8 rfl (by decide) (by decide)
      ((operand_at (good ha) 8 (by decide)).postfix (.inl rfl)) rfl rfl
  | _, @WF.dec a ha => .of_open 8 rfl (by decide) (by decide)
      ((operand_at (good ha) 8 (by decide)).postfix (.inr rfl)) rfl rfl
theorem goodArgs : ∀ {as : Nodes}, WFs as → GoodArgs as
  | _, .nil => fun h => absurd rfl h
  | _, @WFs.cons a as ha hs =>
    have ga := good ha
    have ih := goodArgs hs
    match as, ih with
    | .nil, _ => fun _ R hR =>
      have hc := stops_notComma_of_closer hR
      args_one (ga.full ga.pos hc.1) hc.2
    | .cons b bs, ih => fun _ R hR => by
      have h1 := ga.full ga.pos (rest := .comma :: (toksArgs (.cons b bs) ++ R)) rfl
      simpa [toksArgs] using args_more h1 (ih nofun R hR)
end

end MtailVerif.Grammar
