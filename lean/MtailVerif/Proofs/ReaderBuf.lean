import MtailVerif.Model.ReaderBuf
/-! `len ≤ cap` is kept by every operation (`Inv`), and under it the first statement of `ReadAndSend`
    leaves room for `size` bytes whether it regrows the buffer or not (`prepare_spec`): so every read
    of every history is offered at least `size` (`offers_ge`). -/
namespace MtailVerif.ReaderBuf
open MtailVerif

def Inv (b : Buf) : Prop := b.len ≤ b.cap

theorem inv_new (size : Nat) : Inv (new size) := Nat.zero_le size

theorem prepare_spec (size : Nat) (b : Buf) (h : Inv b) :
    (prepare src size b).len = b.len ∧ Inv (prepare src size b) ∧ size ≤ (prepare src size b).cap - (prepare src size b).len := by
  unfold prepare Inv at *
  simp only [src, Generated.Reader.needGrow, Generated.Reader.growCap, decide_eq_true_eq]
  split <;> simp <;> omega

theorem offered_ge (size : Nat) (b : Buf) (h : Inv b) : size ≤ offered src size b :=
  (prepare_spec size b h).2.2

theorem readAndSend_inv (size : Nat) (b : Buf) (h : Inv b) (c k : Nat) : Inv (readAndSend src size b c k) := by
  have hp := (prepare_spec size b h).2.1
  unfold readAndSend
  generalize prepare src size b = p at hp ⊢
  unfold Inv at hp ⊢
  dsimp only
  -- all that matters of the two `min`s: what is read fits, what is consumed was there
  have h1 := Nat.min_le_right c (p.cap - p.len)
  generalize min c (p.cap - p.len) = m at h1 ⊢
  have h2 := Nat.min_le_right k (p.len + m)
  generalize min k (p.len + m) = o at h2 ⊢
  split <;> (dsimp only; omega)

theorem finish_inv (b : Buf) : Inv (finish b) := by simp [Inv, finish]

theorem step_inv (size : Nat) (b : Buf) (h : Inv b) (op : Op) : Inv (step src size b op) := by
  cases op with
  | read c k => exact readAndSend_inv size b h c k
  | finish => exact finish_inv b

theorem offers_ge (size : Nat) (ops : List Op) {b : Buf} (hb : Inv b) : ∀ n ∈ offers src size b ops, size ≤ n := by
  -- the clauses of `offers`: the history is over; a read; a `Finish`
  fun_induction offers src size b ops with
  | case1 => nofun
  | case2 b c k rest ih =>
    exact List.forall_mem_cons.mpr ⟨offered_ge size b hb, ih (readAndSend_inv size b hb c k)⟩
  | case3 b rest ih => exact ih (finish_inv b)

/-- `min c (offered …)` is the number of bytes `readAndSend` takes in when the source returns `c`:
    it is positive as soon as the read size is and the source has bytes -/
theorem read_takes (size : Nat) (b : Buf) (h : Inv b) (c : Nat) (hc : 0 < c) (hs : 0 < size) :
    0 < min c (offered src size b) := by
  have := offered_ge size b h
  omega

end MtailVerif.ReaderBuf
