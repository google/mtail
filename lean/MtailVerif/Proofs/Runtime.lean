import MtailVerif.Model.Runtime
import MtailVerif.Proofs.Assoc
import MtailVerif.Proofs.Lists
/-! `Store.Add`: what the scan over the metrics of one name does to data and to other programs'
    metrics; the store and the handle table as keyed tables. -/
namespace MtailVerif.Runtime

/-- the label value `copyOne` appends for `l` -/
def copied (copyExpiry : Bool) (l : LVal) : LVal :=
  { labels := l.labels, value := l.value, expiry := if copyExpiry then l.expiry else 0 }

theorem copied_true (l : LVal) : copied true l = l := rfl

theorem copyOne_fresh (ce : Bool) (m : SMetric) (o : LVal) (h : ∀ l ∈ m.lvs, l.labels ≠ o.labels) :
    copyOne ce m o = { m with lvs := m.lvs ++ [copied ce o] } := by
  have hfil : m.lvs.filter (fun l => decide (l.labels ≠ o.labels)) = m.lvs :=
    List.filter_eq_self.mpr fun l hl => by simpa using h l hl
  simp only [copyOne, hfil, copied]

theorem foldl_copyOne (ce : Bool) (m : SMetric) (olds : List LVal)
    (hnd : (olds.map (·.labels)).Nodup) (hdis : ∀ o ∈ olds, ∀ l ∈ m.lvs, l.labels ≠ o.labels) :
    (olds.foldl (copyOne ce) m) = { m with lvs := m.lvs ++ olds.map (copied ce) } := by
  induction olds generalizing m with
  | nil => simp
  | cons o rest ih =>
    obtain ⟨ho, hrest⟩ := List.nodup_cons.mp hnd
    rw [List.foldl_cons, copyOne_fresh ce m o (hdis o (.head _)), ih _ hrest]
    · simp
    · intro o' ho' l hl
      rcases List.mem_append.mp hl with hl | hl
      · exact hdis o' (.tail _ ho') l hl
      · cases List.mem_singleton.mp hl
        exact fun (e : o.labels = o'.labels) => ho (List.mem_map.mpr ⟨o', ho', e.symm⟩)

theorem foldl_copyOne_prog (ce : Bool) (ls : List LVal) (m : SMetric) : (ls.foldl (copyOne ce) m).prog = m.prog :=
  foldl_fixed (f := copyOne ce) (·.prog) (fun _ _ => rfl) ls m

theorem addScan_prog (ce : Bool) (m : SMetric) (l : List SMetric) (i : Nat) (d0 : Option Nat) :
    (addScan ce m l i d0).1.prog = m.prog := by
  -- the clauses of `addScan` in order: end of the list; three skips; the `break`; the copy
  fun_induction addScan ce m l i d0
  case case1 | case5 => rfl
  case case2 ih | case3 ih | case4 ih => exact ih
  case case6 ih => exact ih.trans (foldl_copyOne_prog ..)

/-- `dupeIndex`, when it is set by the scan, points at a metric of the same program -/
theorem addScan_dupe_prog (ce : Bool) (m : SMetric) (l : List SMetric) (i : Nat) (d0 : Option Nat)
    (m' : SMetric) (d : Nat) (h : addScan ce m l i d0 = (m', some d)) :
    d0 = some d ∨ ∃ k v, d = i + k ∧ l[k]? = some v ∧ v.prog = m.prog := by
  -- a hit further on, at `rest[k]`, is a hit at `(v :: rest)[k + 1]`
  have shift : ∀ {mm m v : SMetric} {rest : List SMetric} {i : Nat}, mm.prog = m.prog →
      (∃ k w, d = i + 1 + k ∧ rest[k]? = some w ∧ w.prog = mm.prog) →
      ∃ k w, d = i + k ∧ (v :: rest)[k]? = some w ∧ w.prog = m.prog :=
    fun hmm ⟨k, w, hd, hw, hwp⟩ => ⟨k + 1, w, by omega, hw, hwp.trans hmm⟩
  fun_induction addScan ce m l i d0  -- cases as in `addScan_prog`; `hp` says that `v` is of `m`'s program
  case case1 => exact .inl (Prod.mk.inj h).2
  case case2 ih | case3 ih | case4 ih => exact (ih h).imp_right (shift rfl)
  case case5 hp _ _ _ =>
    cases (Prod.mk.inj h).2
    exact .inr ⟨0, _, rfl, rfl, Decidable.of_not_not hp⟩
  case case6 hp _ _ _ ih =>
    rcases ih h with r | r
    · cases r; exact .inr ⟨0, _, rfl, rfl, Decidable.of_not_not hp⟩
    · exact .inr (shift (foldl_copyOne_prog ..) r)

theorem get_set (s : Store) (n n' : Bytes) (ms : List SMetric) :
    (s.set n ms).get n' = if n' = n then ms else s.get n' := by
  unfold Store.get Store.set
  rw [find?_put]; by_cases h : n' = n <;> simp [h]

/-- `Add` rewrites the entry of `m.name` only, and in it appends or erases metrics of `m.prog` only:
    a filter that lets none of that program through sees the entry as it was -/
theorem add_ok {ce : Bool} {s s' : Store} {m : SMetric} (h : s.add ce m = .ok s') :
    ∃ final, s' = s.set m.name final ∧
      ∀ q : SMetric → Bool, (∀ x, x.prog = m.prog → q x = false) → final.filter q = (s.get m.name).filter q := by
  unfold Store.add at h
  cases hget : s.get m.name with
  | nil => rw [hget] at h; cases h; exact ⟨[m], rfl, fun q hq => by simp [hq m rfl]⟩
  | cons first rest =>
    simp only [hget] at h
    split at h
    · cases h
    cases h
    refine ⟨_, rfl, fun q hq => ?_⟩
    cases hscan : addScan ce m (first :: rest) 0 none with
    | mk m' dupe =>
      have hm' : q m' = false := hq m' (by simpa [hscan] using addScan_prog ce m (first :: rest) 0 none)
      have happ : ((first :: rest) ++ [m']).filter q = (first :: rest).filter q := by
        rw [List.filter_append]; simp [hm']
      cases dupe with
      | none => exact happ
      | some d =>
        -- the duplicate the scan marks is of `m`'s program
        obtain ⟨⟨⟩⟩ | ⟨k, w, rfl, hw, hwp⟩ := addScan_dupe_prog ce m (first :: rest) 0 none m' d hscan
        have hw' : ((first :: rest) ++ [m'])[0 + k]? = some w := by
          rw [Nat.zero_add, List.getElem?_append_left (List.getElem?_eq_some_iff.mp hw).1]; exact hw
        exact (filter_eraseIdx hw' (hq w hwp)).trans happ

/-- a line's effect rewrites the metrics under `d.name` one by one and nothing else -/
theorem get_applyEffect (q : Bytes) (d : SMetric) (labels : List Bytes) (s : Store) (n : Bytes) :
    (applyEffect q d labels s).get n = if n = d.name then (s.get n).map (fun m =>
      if m.prog = q ∧ m.typ = d.typ ∧ m.source = d.source ∧ m.keys = d.keys ∧ m.kind = d.kind then incAt m labels else m)
    else s.get n := by
  unfold Store.get applyEffect
  rw [find?_map_key fun x => by split <;> rfl]
  cases hf : s.find? (·.1 = n) with
  | none => simp
  | some x => rw [← (find?_key hf).2]; simp only [Option.map_some]; split <;> rfl

theorem find?_setHandle (hs : List (Bytes × Handle)) (n n' : Bytes) (h : Handle) :
    (setHandle hs n h).find? (·.1 = n') = if n' = n then some (n, h) else hs.find? (·.1 = n') :=
  find?_put hs n n' h

theorem add_error_iff (ce : Bool) (s : Store) (m : SMetric) :
    (∃ e, s.add ce m = .error e) ↔ ∃ first rest, s.get m.name = first :: rest ∧ m.kind ≠ first.kind := by
  unfold Store.add
  cases hget : s.get m.name with
  | nil => simp
  | cons first rest =>
    by_cases hk : m.kind = first.kind
    · simp [hk]
    · simp only [ne_eq, hk, not_false_eq_true, if_true]
      exact ⟨fun _ => ⟨first, rest, rfl, hk⟩, fun _ => ⟨.kind, by simp⟩⟩

/-- `Add` onto a single metric of that name and kind which the scan marks as the duplicate -/
theorem add_replaces {ce : Bool} {s : Store} {m v m' : SMetric} (hs : s.get m.name = [v]) (hkind : v.kind = m.kind)
    (hscan : addScan ce m [v] 0 none = (m', some 0)) : s.add ce m = .ok (s.set m.name [m']) := by
  unfold Store.add
  rw [hs]
  simp [hkind, hscan]

theorem handles_of_not_loaded (cfg : Cfg) (r : RT) (name : Bytes) (v : Version)
    (h : ∀ s', decision cfg r name v ≠ .loaded s') : (compileAndRun cfg r name v).handles = r.handles := by
  unfold compileAndRun
  cases hd : decision cfg r name v with
  | loaded s' => exact absurd hd (h s')
  | _ => rfl

/-! What a line leaves alone in the loader's counters. -/
theorem applyDecl_lineCount (prog key : Bytes) (m : Bool) (r : RT) (de : SMetric × Nat) :
    (applyDecl prog key m r de).lineCount = r.lineCount := by
  fun_cases applyDecl prog key m r de <;> rfl

theorem applyDecl_runtimeErrors (prog key : Bytes) (m : Bool) (r : RT) (de : SMetric × Nat) :
    (applyDecl prog key m r de).runtimeErrors = r.runtimeErrors := by
  fun_cases applyDecl prog key m r de <;> rfl

theorem lineProg_lineCount (key : Bytes) (m : Bool) (r : RT) (h : Bytes × Handle) :
    (lineProg key m r h).lineCount = r.lineCount := by
  unfold lineProg
  simp only
  split
  · rfl
  · exact foldl_fixed (·.lineCount) (applyDecl_lineCount h.1 key m) _ r

end MtailVerif.Runtime
