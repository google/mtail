import MtailVerif.Proofs.IRStmt
/-! From the step relation to `VM.runLine`, and the compiler-correctness theorem for the core language. -/
namespace MtailVerif.IR
open MtailVerif MtailVerif.VM

variable {o : Oracle} {p : Prog} {inp : Input}

theorem run_of_steps {a b : VC} (h : Steps o p inp a b) :
    ∃ k, ∀ fuel, run o p inp (fuel + k) a.t a.st a.memo = run o p inp fuel b.t b.st b.memo := by
  induction h with
  | refl c => exact ⟨0, fun _ => rfl⟩
  | cons hf hs _ ih =>
    obtain ⟨k, hk⟩ := ih
    exact ⟨k + 1, fun fuel => (run_next hf hs).trans (hk fuel)⟩

theorem run_of_halts {a : VC} {out : Outcome} {st : MStore} {memo : Memo} (h : Halts o p inp a out st memo) :
    ∃ k, ∀ fuel, run o p inp (fuel + k) a.t a.st a.memo = ⟨out, st, memo⟩ := by
  induction h with
  | stop hf hs | err hf hs | fault hf hs => exact ⟨1, fun fuel => by rw [run_step hf, hs]⟩
  | cons hf hs _ ih =>
    obtain ⟨k, hk⟩ := ih
    exact ⟨k + 1, fun fuel => (run_next hf hs).trans (hk fuel)⟩

/-- "with `k` more than any fuel" is "from `k` on" -/
theorem from_of_add {P : Nat → Prop} {k : Nat} (h : ∀ fuel, P (fuel + k)) : ∀ fuel, k ≤ fuel → P fuel :=
  fun _ hk => Nat.sub_add_cancel hk ▸ h _

/-- **Compiler correctness for the core language.**  If the VM's program is the code generated
    for the statements `prog` (with whatever string, regular-expression and metric tables), then
    for every line, every metric store, every strptime memo and every behaviour of the standard
    library, running the bytecode gives exactly the outcome (normal end, `stop`, the same checked
    runtime error, or the same internal fault), the store and the memo that the reference
    semantics defines — for every program outside the two `otherwise`/`else` shapes. -/
theorem compile_correct (prog : Ss) (hok : okSs prog = true) (p : Prog) (hp : p.code = emitSs prog 0)
    (o : Oracle) (inp : Input) (st : MStore) (memo : Memo) :
    ∃ k, ∀ fuel, k ≤ fuel → runLine o p fuel inp st memo = semLine o p prog inp st memo := by
  have hc : CodeAt p.code 0 (emitSs prog 0) := hp ▸ .all _
  have h := (runs_Ss (o := o) (p := p) (inp := inp) prog hok 0 false ⟨norm {}, st, memo⟩ false fun _ => rfl).sim
    (tv := {}) rfl rfl hc rfl
  unfold semLine runLine
  cases hr : execSs o p inp prog ⟨norm {}, st, memo⟩ false with
  | halt out st' memo' =>
    rw [hr] at h
    obtain ⟨k, hk⟩ := run_of_halts h
    exact ⟨k, from_of_add hk⟩
  | ok c' fl =>
    rw [hr] at h
    obtain ⟨tv', hs, _, hpc, _⟩ := h
    obtain ⟨k, hk⟩ := run_of_steps hs
    -- behind the code there is nothing to fetch
    have hend : p.code[tv'.pc]? = none := by rw [hpc, hp]; simp
    exact ⟨k + 1, from_of_add fun fuel => (Nat.add_right_comm fuel 1 k ▸ hk (fuel + 1)).trans (run_done hend)⟩

end MtailVerif.IR
