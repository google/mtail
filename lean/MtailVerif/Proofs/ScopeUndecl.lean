import MtailVerif.Proofs.ScopeInv
/-! A name that no declaration in the program introduces cannot be resolved anywhere in it: an
    invariant of the checker's state (`Inv name`: every entry of every scope frame, of every
    decorator scope under construction and of every captured decorator scope, that points at a
    metric, constant or decorator symbol, is keyed by a name other than `name`) is kept by the walk
    over any tree that does not declare `name` (`walk_inv`), and under it the lookups of `name` fail
    (`lookup_none`).  Hence `undecl_fires`: a use of the name as an identifier or as a decorator is
    reported, wherever in the program it stands. -/
namespace MtailVerif.Scope
open MtailVerif MtailVerif.Ast

/-- an entry of a scope frame is harmless for `name`: it points at an existing symbol, and if that
    symbol is not a capture group the entry's key is not `name` -/
def EntryOK (name : String) (syms : List Sym) (e : String × Nat) : Prop :=
  e.2 < syms.length ∧ ∀ sy, syms[e.2]? = some sy → sy.kind ≠ .capref → e.1 ≠ name

def FrameOK (name : String) (syms : List Sym) (f : Frame) : Prop := ∀ e ∈ f, EntryOK name syms e

/-- nothing in the checker's state can resolve `name` as a metric, constant or decorator (`ids` is `Ids s`) -/
structure Inv (name : String) (s : St) : Prop where
  ids : ∀ (i : Nat) (sy : Sym), s.syms[i]? = some sy → sy.id = i
  names : ∀ sy ∈ s.syms, sy.kind ≠ .capref → sy.name ≠ name
  frames : ∀ f ∈ s.frames, FrameOK name s.syms f
  decos : ∀ f ∈ s.decoScopes, FrameOK name s.syms f
  zyg : ∀ z ∈ s.zygotes, FrameOK name s.syms z.2

theorem inv_init (name : String) : Inv name ({} : St) :=
  ⟨by intro i sy h; simp at h, by intro sy h; simp at h, by intro f h; simp at h, by intro f h; simp at h, by intro z h; simp at h⟩

theorem Inv.entries {name : String} {s : St} (h : Inv name s) : Entries (EntryOK name s.syms) s := ⟨h.frames, h.decos, h.zyg⟩

theorem Inv.scopes {name : String} {a b : St} (h : Inv name a) (hs : b.syms = a.syms) (he : Entries (EntryOK name a.syms) b) :
    Inv name b := ⟨hs ▸ h.ids, hs ▸ h.names, hs ▸ he.frames, hs ▸ he.decos, hs ▸ he.zyg⟩

theorem entryOK_newSym {name : String} {s : St} (n : String) (k : Kind) (p : Option Pos) (a : Nat) {e : String × Nat}
    (h : EntryOK name s.syms e) : EntryOK name (s.newSym n k p a).1.syms e :=
  ⟨Nat.lt_of_lt_of_le h.1 (by simp [St.newSym]),
   fun sy hs => (newSym_get hs).elim (h.2 sy) fun ⟨hl, _⟩ => absurd hl (Nat.ne_of_lt h.1)⟩

theorem Inv.newSym {name : String} {s : St} (h : Inv name s) (n : String) (k : Kind) (p : Option Pos) (a : Nat)
    (hn : k ≠ .capref → n ≠ name) : Inv name (s.newSym n k p a).1 :=
  have he := h.entries.mono (b := (s.newSym n k p a).1) rfl rfl rfl fun _ => entryOK_newSym n k p a
  ⟨Ids.newSym h.ids n k p a, fun sy hm => (List.mem_append.mp hm).elim (h.names sy) fun hm => List.mem_singleton.mp hm ▸ hn,
   he.frames, he.decos, he.zyg⟩

theorem Inv.renameSym {name : String} {s : St} {i : Nat} (h : Inv name s) (n : String) (c : Cap s i) :
    Inv name (renameSym s i n) := by
  have he : Entries (EntryOK name (Scope.renameSym s i n).syms) (Scope.renameSym s i n) := by
    refine h.entries.mono rfl rfl rfl fun e he => ⟨by simpa [Scope.renameSym] using he.1, fun sy' hs hk => ?_⟩
    obtain ⟨sy, g, gk, _, _⟩ := renameSym_get hs
    exact he.2 sy g (gk ▸ hk)
  refine ⟨Ids.renameSym h.ids i n, fun sy' hm hk => ?_, he.frames, he.decos, he.zyg⟩
  obtain ⟨j, hj⟩ := List.getElem?_of_mem hm
  obtain ⟨sy, g, gk, _, ge⟩ := renameSym_get hj
  obtain ⟨sy0, g0, k0⟩ := c
  by_cases hji : j = i
  · rw [hji, g0] at g; cases g; exact absurd (gk.trans k0) hk
  · rw [ge hji]; exact h.names sy (List.mem_of_getElem? g) (ge hji ▸ hk)

theorem Inv.own {name : String} {s : St} (h : Inv name s) {key : String} {i : Nat} (o : Own s key i) :
    EntryOK name s.syms (key, i) := by
  obtain ⟨sy, hs, ho⟩ := o
  refine ⟨(List.getElem?_eq_some_iff.mp hs).1, fun sy' hs' hk => ?_⟩
  cases hs.symm.trans hs'
  exact ho.elim (absurd · hk) fun hn => hn ▸ h.names sy (List.mem_of_getElem? hs) hk

/-- under the invariant `name` resolves to nothing but (possibly) a capture group -/
theorem lookup_none {name : String} {s : St} (h : Inv name s) (k : Kind) (hk : k ≠ .capref) : lookup s name k = none := by
  cases hl : lookup s name k with
  | none => rfl
  | some sy =>
    obtain ⟨f, hf, i, hm, hs, hkk⟩ := lookup_some hl
    exact absurd rfl ((h.frames f hf (name, i) hm).2 sy hs (hkk ▸ hk))

theorem Inv.flatten {name : String} {s : St} (h : Inv name s) (fr : List Frame) : FrameOK name s.syms (flatten s fr []) :=
  flatten_all (fun i sy hs => h.own ⟨sy, h.ids i sy hs ▸ hs, .inr rfl⟩) fr [] nofun

theorem kept_inv (name : String) : Kept (· ≠ name) (fun _ => True) (Inv name) where
  core h c := h.scopes c.syms (h.entries.mono c.frames c.decos c.zyg fun _ => id)
  push fr _ h := h.scopes rfl (h.entries.push (h.flatten fr))
  pop h := h.scopes rfl h.entries.pop
  newSym p a _ hn h := h.newSym _ _ p a hn
  enter hf o h := h.scopes rfl (h.entries.enter hf (h.own o))
  rename n _ _ c h := h.renameSym n c
  used _ _ h := by
    unfold markUsed
    split
    · exact h
    · exact h.scopes rfl (h.entries.mono rfl rfl rfl fun _ => id)
  capture hd h := h.scopes rfl (h.entries.capture hd (h.flatten _))
  openDeco h := h.scopes rfl h.entries.openDecoScope
  close i _ _ _ hd h := h.scopes rfl (h.entries.close i hd)

theorem walk_inv (cfg : Cfg) (name : String) (n : Node) (hd : declares name n = false) (s : St) :
    Inv name s → Inv name (walk cfg n s) :=
  walk_rel (kept_inv name).closed n (fun x hx e => by rw [e, hd] at hx; cases hx) (fun _ _ => trivial) s

theorem walkList_inv (cfg : Cfg) (name : String) (ns : Nodes) (hd : declaresList name ns = false) (s : St) :
    Inv name s → Inv name (walkList cfg ns s) :=
  walkList_rel (kept_inv name).closed ns (fun x hx e => by rw [e, hd] at hx; cases hx) (fun _ _ => trivial) s

/-- `Tr f`, and `f` keeps the invariant -/
structure TrU (name : String) (f : St → St) : Prop where
  tr : Tr f
  inv : ∀ s, Inv name s → Inv name (f s)

theorem trU_walkList (cfg : Cfg) (name : String) (ns : Nodes) (h : declaresList name ns = false) : TrU name (walkList cfg ns) :=
  ⟨(walkList_fk cfg ns).tr, walkList_inv cfg name ns h⟩

theorem undecl_fires_both (cfg : Cfg) (name : String) :
    (∀ n, declares name n = false → mentions name n = true → FiresOn (Inv name) (walk cfg n)) ∧
    ∀ ns, declaresList name ns = false → mentionsList name ns = true → FiresOn (Inv name) (walkList cfg ns) := by
  have I := kept_inv name
  have S := I.stable
  have K n (hd : declares name n = false) : Keeps (Inv name) (walk cfg n) :=
    .of_visit (walk_visit cfg n) fun s _ _ => walk_inv cfg name n hd s
  -- one case per clause of `mentions`, in the order written there, then those of `mentionsList`
  apply mentions.mutual_induct
  case case1 =>
    intro n p ty _ h
    cases beq_iff_eq.mp h
    refine FiresOn.guarded S.depth fun s _ h => ?_
    rw [idK_undeclared p (lookup_none h .var (by decide)) (lookup_none h .pattern (by decide))]
    exact lt_err s
  case case2 =>
    intro n block p ih hd h
    rcases of_or h with h | h
    · cases beq_iff_eq.mp h
      refine FiresOn.guarded S.depth fun s _ h => ?_
      rw [decoK_undefined _ _ (lookup_none h .deco (by decide))]
      exact lt_err s
    · exact fires_deco S (fun fr hl h => I.push fr (I.used hl (fun _ => trivial) h)) (ih hd h)
  case case3 => exact fun cs ih hd h => fires_stmts S (ih hd h)
  case case4 => exact fun cs ih hd h => fires_node S (ih hd h) .refl
  case case5 =>
    intro c t e ihc iht ihe hd h
    have ⟨hc, ht⟩ := of_nor (of_nor hd).1
    exact fires_cond S (K c hc) (K t ht) ((of_or h).imp (fun h => (of_or h).imp (ihc hc) (iht ht)) (ihe (of_nor hd).2))
  case case6 => exact fun _ _ _ _ ih hd h => fires_builtin S (ih hd h)
  case case7 =>
    exact fun _ l r _ ihl ihr hd h => fires_bin S (K l (of_nor hd).1) ((of_or h).imp (ihl (of_nor hd).1) (ihr (of_nor hd).2))
  case case8 => exact fun _ _ _ _ ih hd h => fires_node S (ih hd h) .refl
  case case9 =>
    exact fun lhs index _ ihi ihl hd h =>
      fires_idx S (K index (of_nor hd).2) ((of_or h).imp (ihi (of_nor hd).2) (ihl (of_nor hd).1))
  case case10 => exact fun e _ ih hd h => fires_patexpr S (K e hd) (.inl (ih hd h))
  case case11 =>
    exact fun n _ _ e _ ih hd h => fires_const S (I.declared (ne_of_beq_false (of_nor hd).1)) (ih (of_nor hd).2 h)
  case case12 =>
    exact fun n block _ ih hd h =>
      fires_decodecl S (I.declared (ne_of_beq_false (of_nor hd).1)) I.openDeco (ih (of_nor hd).2 h)
  case case13 => exact fun _ _ _ ih hd h => fires_node S (ih hd h) .refl
  case case14 => exact fun _ _ ih hd h => fires_node S (ih hd h) .refl
  case case15 => intros; simp only [mentions, Bool.false_eq_true, *] at *   -- `| _ => false`
  case case16 => exact fun _ => nofun
  case case17 =>
    exact fun n ns ihn ihns hd h => fires_cons (K n (of_nor hd).1) ((of_or h).imp (ihn (of_nor hd).1) (ihns (of_nor hd).2))

/-- `FiresOn (Inv name)`: below the depth limit, and with nothing in scope that could resolve the undeclared
    `name`, `f` reports an error -/
def FiresU (name : String) (f : St → St) : Prop :=
  ∀ s, s.tooDeep = false → Inv name s → s.errors.length < (f s).errors.length

/-- **a name nobody declares, used as an identifier or as a decorator, is rejected wherever it stands** -/
theorem undecl_fires (cfg : Cfg) (name : String) (n : Node) : declares name n = false → mentions name n = true →
    FiresU name (walk cfg n) := (undecl_fires_both cfg name).1 n

theorem undeclList_fires (cfg : Cfg) (name : String) : ∀ (ns : Nodes), declaresList name ns = false → mentionsList name ns = true →
    FiresU name (walkList cfg ns) := (undecl_fires_both cfg name).2

end MtailVerif.Scope
