import MtailVerif.Model.TailerPoll
import MtailVerif.Proofs.Assoc
/-! What a pattern poll does to the stream map, said once: nothing but the map changes, the map
    stays duplicate free, and the paths in it afterwards are those that were and those the poll
    finds (`Post`).  `Post` composes, so one pass over the matches, one pattern and all patterns
    are the same induction. -/
namespace MtailVerif.TailerPoll
open MtailVerif

theorem kindOf_mem (t : T) (p : Bytes) (k : Kind) (h : kindOf t p = some k) : p ∈ t.nodes.map (·.1) :=
  List.mem_map.mpr ⟨(p, k), mem_of_find?_fst h, rfl⟩

/-- `t'` differs from `t` in its stream map only, which has gained exactly the paths in `new` -/
structure Post (t t' : T) (new : Bytes → Prop) : Prop where
  frame : t' = { t with streams := t'.streams }
  nodup : t.streams.Nodup → t'.streams.Nodup
  mem : ∀ q, q ∈ t'.streams ↔ q ∈ t.streams ∨ new q

namespace Post

theorem refl (t : T) : Post t t (fun _ => False) := ⟨rfl, id, fun _ => by simp⟩

theorem congr {t t' : T} {n n' : Bytes → Prop} (h : Post t t' n) (e : ∀ q, n q ↔ n' q) : Post t t' n' :=
  ⟨h.frame, h.nodup, fun q => by rw [h.mem, e]⟩

theorem trans {t t' t'' : T} {n n' : Bytes → Prop} (h : Post t t' n) (h' : Post t' t'' n') :
    Post t t'' (fun q => n q ∨ n' q) :=
  ⟨by rw [h'.frame, h.frame], fun hn => h'.nodup (h.nodup hn), fun q => by rw [h'.mem, h.mem, or_assoc]⟩

theorem nodes {t t' : T} {n : Bytes → Prop} (h : Post t t' n) : t'.nodes = t.nodes := (congrArg T.nodes h.frame :)

theorem delivered {t t' : T} {n : Bytes → Prop} (h : Post t t' n) : t'.delivered = t.delivered :=
  (congrArg T.delivered h.frame :)

theorem kindOf {t t' : T} {n : Bytes → Prop} (h : Post t t' n) (q : Bytes) : kindOf t' q = kindOf t q := by
  rw [TailerPoll.kindOf, h.nodes]; rfl

end Post

theorem tailPath_post (t : T) (p : Bytes) : Post t (tailPath t p) (· = p) := by
  unfold tailPath
  by_cases hc : t.streams.contains p = true
  · rw [if_pos hc]
    have hp : p ∈ t.streams := List.contains_iff_mem.mp hc
    exact ⟨rfl, id, fun q => ⟨Or.inl, fun h => h.elim id (· ▸ hp)⟩⟩
  · rw [if_neg hc]
    have hp : p ∉ t.streams := fun h => hc (List.contains_iff_mem.mpr h)
    exact ⟨rfl, fun hn => List.nodup_append.mpr ⟨hn, by simp,
        fun a ha b hb e => hp (List.mem_singleton.mp hb ▸ e ▸ ha)⟩,
      fun q => List.mem_append.trans (or_congr Iff.rfl List.mem_singleton)⟩

/-- what makes one pattern's glob pass hand a path to `TailPath` -/
def Found (cfg : Cfg) (pat : Bytes) (t : T) (q : Bytes) : Prop :=
  cfg.globMatch pat q = true ∧ kindOf t q = some .file ∧ cfg.ignore (baseName q) = false

theorem found_iff (cfg : Cfg) (pat : Bytes) (t : T) (q : Bytes) :
    (cfg.globMatch pat q && kindOf t q = some .file && !cfg.ignore (baseName q)) = true ↔ Found cfg pat t q := by
  simp [Found, and_assoc]

/-- a step whose gain `N x t` looks at nothing but the nodes, which no `Post` changes, folds:
    the paths gained over a list are those gained for one of its elements -/
theorem Post.foldl {α : Type} {f : T → α → T} {N : α → T → Bytes → Prop} (hf : ∀ t x, Post t (f t x) (N x t))
    (hN : ∀ {t t' : T} {n}, Post t t' n → ∀ x q, N x t' q ↔ N x t q) (xs : List α) (t : T) :
    Post t (xs.foldl f t) (fun q => ∃ x ∈ xs, N x t q) := by
  induction xs generalizing t with
  | nil => exact (Post.refl t).congr (by simp)
  | cons x xs ih =>
    refine ((hf t x).trans (ih _)).congr fun q => ?_
    simp only [hN (hf t x), List.mem_cons, exists_eq_or_imp]

theorem found_post {cfg : Cfg} {pat : Bytes} {t t' : T} {n : Bytes → Prop} (h : Post t t' n) (q : Bytes) :
    Found cfg pat t' q ↔ Found cfg pat t q := by
  rw [Found, h.kindOf, Found]

/-- one match: handed to `TailPath` iff it is found -/
theorem globStep_post (cfg : Cfg) (pat : Bytes) (t : T) (p : Bytes) :
    Post t (if cfg.globMatch pat p && kindOf t p = some .file && !cfg.ignore (baseName p) then tailPath t p else t)
      (fun q => q = p ∧ Found cfg pat t q) := by
  split
  · next hc =>
    have hf := (found_iff cfg pat t p).mp hc
    exact (tailPath_post t p).congr fun q => ⟨fun e => ⟨e, e ▸ hf⟩, And.left⟩
  · next hc =>
    exact (Post.refl t).congr fun q => ⟨False.elim, fun h => hc ((found_iff cfg pat t p).mpr (h.1 ▸ h.2))⟩

theorem globOne_post (cfg : Cfg) (t : T) (pat : Bytes) : Post t (globOne cfg t pat) (Found cfg pat t) :=
  (Post.foldl (globStep_post cfg pat) (fun h _ q => and_congr_right' (found_post h q)) _ t).congr fun q =>
    ⟨fun ⟨_, _, e, hf⟩ => e ▸ hf, fun hf => ⟨q, kindOf_mem t q _ hf.2.1, rfl, hf⟩⟩

theorem pats_fold (cfg : Cfg) (pats : List Bytes) (t : T) :
    Post t (pats.foldl (globOne cfg) t) (fun q => ∃ pat ∈ pats, Found cfg pat t q) :=
  Post.foldl (globOne_post cfg) (fun h _ => found_post h) pats t

theorem eligible_iff (cfg : Cfg) (t : T) (p : Bytes) :
    eligible cfg t p = true ↔ ∃ pat ∈ cfg.patterns, Found cfg pat t p := by
  simp only [eligible, Found, Bool.and_eq_true, decide_eq_true_eq, Bool.not_eq_true', List.any_eq_true]
  exact ⟨fun ⟨⟨hk, hi⟩, pat, hp, hm⟩ => ⟨pat, hp, hm, hk, hi⟩,
    fun ⟨pat, hp, hm, hk, hi⟩ => ⟨⟨hk, hi⟩, pat, hp, hm⟩⟩

/-- the poll in one statement: the streams wake (those whose path no longer holds anything they
    can reopen end), then nothing but the stream map changes, it stays duplicate free, and it gains
    exactly the eligible paths -/
theorem poll_post (cfg : Cfg) (t : T) : Post (streamWake t) (poll cfg t) (fun p => eligible cfg t p = true) :=
  -- `streamWake` leaves the nodes, so `Found … (streamWake t)` is `Found … t` by `rfl`
  (pats_fold cfg cfg.patterns (streamWake t)).congr fun p => (eligible_iff cfg t p).symm

end MtailVerif.TailerPoll
