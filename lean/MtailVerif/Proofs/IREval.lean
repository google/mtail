import MtailVerif.Proofs.IRMachine
/-! What the reference semantics computes for a primitive or a comparison whose operands push known
    values: one VM instruction run on those values.  The instruction's own clause of `stepCore` is
    asked for in the form `∀ t, stepCore … { t with stack := s } st = …`, which holds by `rfl` once
    the opcode and the shape of `s` are known. -/
namespace MtailVerif.IR
open MtailVerif MtailVerif.VM

variable {o : Oracle} {p : Prog} {inp : Input} {c : Cfg} {i : Instr} {a b : E} {va vb : Val} {s s' : List Val}

/-- `step` hands `strptime` to `stepStrptime`; `stepCore`'s own clause for it is a fault -/
theorem stepCore_strptime {t : Thread} {st : MStore} (h : i.op = .strptime) :
    stepCore o p inp i t st = .fault .badInstr st := by
  obtain ⟨op, arg⟩ := i; cases h; rfl

theorem runPrim_one (hi : i.op ≠ .strptime) :
    runPrim o p inp [i] c = afterStep (stepCore o p inp i { c.t with pc := c.t.pc + 1 } c.st, c.memo) .ok := by
  rw [runPrim, step, if_neg hi]; rfl

/-- an instruction that goes on: this is where `norm c.t = c.t` is needed, since `afterStep`
    normalises the registers -/
theorem runPrim_next (hc : norm c.t = c.t)
    (h : ∀ t : Thread, stepCore o p inp i { t with stack := s } c.st = .next { t with stack := s' } c.st) :
    runPrim o p inp [i] (c.withStack s) = .ok (c.withStack s') := by
  -- `i` is not `strptime`: on that `stepCore` faults, and `h` says it goes on
  rw [runPrim_one fun e => nomatch (stepCore_strptime e).symm.trans (h c.t)]
  exact (congrArg (fun r => afterStep (r, c.memo) .ok) (h { c.t with pc := c.t.pc + 1 })).trans
    (congrArg (fun t : Thread => R.ok ⟨{ t with stack := s' }, c.st, c.memo⟩) hc)

theorem runPrim_err {e : RtErr}
    (h : ∀ t : Thread, stepCore o p inp i { t with stack := s } c.st = .err e c.st) :
    runPrim o p inp [i] (c.withStack s) = .halt (.err e) c.st c.memo := by
  rw [runPrim_one fun e => nomatch (stepCore_strptime e).symm.trans (h c.t)]
  exact congrArg (fun r => afterStep (r, c.memo) .ok) (h { c.t with pc := c.t.pc + 1 })

/-- an instruction with a checked error: `x` is what it computes from its operands.  The result
    type is `Int`, not a parameter, and the clause stands behind the colon: a `match` over a type
    parameter, or one that carries a named hypothesis about `x` along, is not identified with the
    `match` in the statements this is applied to. -/
theorem runPrim_try (hc : norm c.t = c.t) (x : Except RtErr Int) (f : Int → Val) :
    (∀ t : Thread, stepCore o p inp i { t with stack := s } c.st =
      match x with
      | .ok a => .next { t with stack := f a :: s' } c.st
      | .error e => .err e c.st) →
    runPrim o p inp [i] (c.withStack s) =
      match x with
      | .ok a => .ok (c.withStack (f a :: s'))
      | .error e => .halt (.err e) c.st c.memo := by
  cases x with
  | ok a => exact runPrim_next hc
  | error e => exact runPrim_err

/-- what the operator tables ask of an operand: on normalised registers it pushes `v` and does
    nothing else (a literal, or any expression of which that is known) -/
def Pushes (o : Oracle) (p : Prog) (inp : Input) (e : E) (v : Val) : Prop :=
  ∀ c : Cfg, norm c.t = c.t → evalE o p inp e c = .ok (c.withStack (v :: c.t.stack))

theorem Pushes.of_instr {v : Val}
    (h : ∀ (t : Thread) (st : MStore), stepCore o p inp i t st = .next { t with stack := v :: t.stack } st) :
    Pushes o p inp (.prim [i] .nil) v := fun c hc => by
  rw [evalE, evalEs]; exact runPrim_next (c := c) (s := c.t.stack) hc fun _ => h _ _

theorem pushes_i64 (x : Int) : Pushes o p inp (.prim [⟨.push, .i64 x⟩] .nil) (.i64 x) :=
  .of_instr fun _ _ => rfl

theorem pushes_f64 (x : UInt64) : Pushes o p inp (.prim [⟨.push, .f64 x⟩] .nil) (.f64 x) :=
  .of_instr fun _ _ => rfl

theorem pushes_str {k : Nat} {x : Bytes} (hx : p.strs[k]? = some x) : Pushes o p inp (.prim [⟨.str, .int k⟩] .nil) (.str x) :=
  .of_instr fun _ _ => by simp [stepCore, argInt, hx]

theorem evalE_prim1 {is : List Instr} {r : R} (ha : Pushes o p inp a va) (hc : norm c.t = c.t)
    (h : runPrim o p inp is (c.withStack (va :: c.t.stack)) = r) : evalE o p inp (.prim is (.cons a .nil)) c = r := by
  rw [evalE, evalEs, ha c hc]; exact h

theorem evalE_prim2 {is : List Instr} {r : R} (ha : Pushes o p inp a va) (hb : Pushes o p inp b vb) (hc : norm c.t = c.t)
    (h : runPrim o p inp is (c.withStack (vb :: va :: c.t.stack)) = r) :
    evalE o p inp (.prim is (.cons a (.cons b .nil))) c = r := by
  rw [evalE, evalEs, ha c hc, R.bind, evalEs, hb _ (Cfg.withStack_norm hc)]; exact h

/-- a comparison whose instruction pushes `r`: the two arms turn it into `r` under `jnm`, `!r` under `jm` -/
theorem evalE_cmp {jm r r' : Bool} (ha : Pushes o p inp a va) (hb : Pushes o p inp b vb) (hc : norm c.t = c.t)
    (h : runPrim o p inp [i] (c.withStack (vb :: va :: c.t.stack)) = .ok (c.withStack (.bool r :: c.t.stack)))
    (hr : (if jm then !r else r) = r') :
    evalE o p inp (.cmp i jm a b) c = .ok (c.withStack (.bool r' :: c.t.stack)) := by
  rw [evalE, ha c hc, R.bind, hb _ (Cfg.withStack_norm hc)]
  simp only [R.bind]
  -- `erw`: the configuration here is `(c.withStack _).withStack _`, that of `h` once `withStack` is unfolded
  erw [h]
  subst hr
  cases jm <;> cases r <;> rfl

end MtailVerif.IR
