import MtailVerif.Props.C13
import MtailVerif.Props.C21
#print axioms MtailVerif.C13.collect_spec
#print axioms MtailVerif.C13.representable_exported
#print axioms MtailVerif.C13.sample_fields
#print axioms MtailVerif.C13.exported_only_representable
#print axioms MtailVerif.C13.histogram_cumulative_monotone
#print axioms MtailVerif.C13.histogram_last_cumulative_eq_total
#print axioms MtailVerif.C21.sum_buckets_eq_count
#print axioms MtailVerif.C13.export_skeletons
#print axioms MtailVerif.C13.datum_skeletons
#print axioms MtailVerif.C13.f_exporter_prometheus_skeletons
#print axioms MtailVerif.C13.f_datum_datum_skeletons
#print axioms MtailVerif.C13.f_mtail_mtail_skeletons
